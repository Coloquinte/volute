import VoluteModel.Lemmas.CrossWord
import VoluteModel.Lemmas.Guards
import VoluteModel.Lemmas.Tabulate
import VoluteModel.Props.C01
import VoluteModel.Props.C08
import VoluteModel.Props.C09
import VoluteModel.Props.C11
import VoluteModel.Props.C10
import VoluteModel.Props.C19

/-!
# C02 - equality, hashing and ordering are extensional (no hidden representation state)

`Reachable l → l.WF` by induction over every finite history of public calls with valid arguments; on
well-formed tables the derived `PartialEq` on `(num_vars, table)` and `cmp = Equal` are extensional
equality (the derived `Hash` reads the same two fields: argued, not modelled), and the block view has
nothing at or beyond `2^n`.
-/

namespace VoluteModel.Props.C02
open Gen

/-- one constructor per public way to obtain or mutate a table, under the API's own guards -/
inductive Reachable : Lut → Prop
  | zero (n) : Reachable (Dyn.zero n)
  | one (n) : Reachable (Dyn.one n)
  | nthVar (n i l) : Dyn.nthVar n i = some l → Reachable l
  | parity (n) : Reachable (Dyn.parity n)
  | majority (n) : Reachable (Dyn.majority n)
  | threshold (n k) : Reachable (Dyn.threshold n k)
  | equals (n k) : Reachable (Dyn.equals n k)
  | symmetric (n c) : Reachable (Dyn.symmetric n c)
  | random (n rng) : Reachable (Dyn.random n rng)
  | fromBlocks (n b l) : WF n b → Dyn.fromBlocks n b = some l → Reachable l
  | fromHex (n s l) : Dyn.fromHexString n s = some l → Reachable l
  | not (a) : Reachable a → Reachable (Dyn.not a)
  | and (a b l) : Reachable a → Reachable b → Dyn.and a b = some l → Reachable l
  | or (a b l) : Reachable a → Reachable b → Dyn.or a b = some l → Reachable l
  | xor (a b l) : Reachable a → Reachable b → Dyn.xor a b = some l → Reachable l
  | flip (a i l) : Reachable a → Dyn.flip a i = some l → Reachable l
  | swap (a i j l) : Reachable a → Dyn.swap a i j = some l → Reachable l
  | swapAdjacent (a i l) : Reachable a → Dyn.swapAdjacent a i = some l → Reachable l
  | cofactor0 (a i c) : Reachable a → Dyn.cofactors a i = some c → Reachable c.1
  | cofactor1 (a i c) : Reachable a → Dyn.cofactors a i = some c → Reachable c.2
  | fromCofactors (a b i l) : Reachable a → Reachable b → Dyn.fromCofactors a b i = some l → Reachable l
  | setBit (a m l) : Reachable a → Dyn.setBit a m = some l → Reachable l
  | unsetBit (a m l) : Reachable a → Dyn.unsetBit a m = some l → Reachable l
  | pCanon (a r) : Reachable a → Dyn.pCanonization a = some r → Reachable r.1
  | nCanon (a r) : Reachable a → Dyn.nCanonization a = some r → Reachable r.1
  | npnCanon (a r) : Reachable a → Dyn.npnCanonization a = some r → Reachable r.1
  | next (a) : Reachable a → Reachable (Dyn.verifNext a).1
  | setValue (a m v l) : Reachable a → Dyn.setValue a m v = some l → Reachable l
  | tryFromDyn (n a l) : Reachable a → Stat.tryFromDyn n a = some l → Reachable l
  | toDyn (a l) : Reachable a → Stat.toDyn a = some l → Reachable l
  | fromInt (n v l) : n ≤ 6 → v < 2 ^ (2 ^ n) → Stat.fromInt n v = some l → Reachable l
  | ofSop (s : Sop) : Reachable s.toLut
  | ofEsop (s : Esop) : Reachable s.toLut
  | ofSoes (s : Soes) : Reachable s.toLut

/-! Behind its check every call runs a kernel that keeps tables well formed. -/

theorem flip_some_WF {a l : Lut} {i : Nat} (h : Dyn.flip a i = some l) (ha : a.WF) : l.WF := by
  obtain ⟨hi, rfl⟩ := guard_some.mp h
  exact flip_WF a.n a.t ha i (.inr ((Dyn.checkVar_iff a i).mp hi))

theorem swap_some_WF {a l : Lut} {i j : Nat} (h : Dyn.swap a i j = some l) (ha : a.WF) : l.WF := by
  obtain ⟨hij, rfl⟩ := guard_some.mp h
  obtain ⟨hi, hj⟩ := Bool.and_eq_true_iff.mp hij
  exact swap_WF a.n a.t ha i j (.inr ⟨(Dyn.checkVar_iff a i).mp hi, (Dyn.checkVar_iff a j).mp hj⟩)

theorem cofactors_some_WF {a : Lut} {i : Nat} {c : Lut × Lut} (h : Dyn.cofactors a i = some c) (ha : a.WF) :
    c.1.WF ∧ c.2.WF := by
  obtain ⟨hi, rfl⟩ := guard_some.mp h
  have hi := (Dyn.checkVar_iff a i).mp hi
  exact ⟨cof0_WF a.n a.t ha i hi, cof1_WF a.n a.t ha i hi⟩

theorem fromCofactors_some_WF {a b l : Lut} {i : Nat} (h : Dyn.fromCofactors a b i = some l)
    (ha : a.WF) (hb : b.WF) : l.WF := by
  obtain ⟨hn, h⟩ := Option.ite_none_left_eq_some.mp h
  obtain ⟨_, ⟨⟩⟩ := Option.ite_none_left_eq_some.mp h
  have hn : a.n = b.n := Decidable.of_not_not (mt bne_iff_ne.mpr hn)
  exact fromCof_WF a.n _ a.t b.t (Dyn.new_size a.n) ha (hn ▸ hb) i

theorem setBit_some_WF {a l : Lut} {m : Nat} (h : Dyn.setBit a m = some l) (ha : a.WF) : l.WF := by
  obtain ⟨hm, rfl⟩ := guard_some.mp h
  exact setBit_WF a.n a.t ha m ((Dyn.checkBit_iff a m).mp hm)

theorem unsetBit_some_WF {a l : Lut} {m : Nat} (h : Dyn.unsetBit a m = some l) (ha : a.WF) : l.WF := by
  obtain ⟨_, rfl⟩ := guard_some.mp h
  exact unsetBit_WF a.n a.t ha m

/-! The canonization walks only flip, swap or complement the table they carry, so the best table they
return is well formed.  Props/C04 (`*_orbit_min_all`) has `WF n c` too, but only under the sequence facts
(N, NPN: n ≤ 64) and by importing CanonFlat, SeqFacts, Cover, Count; this invariant holds for every `n`: it
needs valid positions only below six variables, from there on `WF` is the number of words (`6 ≤ n ∨ ..`). -/

def SInv (n : Nat) (s : WalkState) : Prop := WF n s.table ∧ WF n s.best

theorem cmpStep_inv (n : Nat) (s : WalkState) (h : SInv n s) : SInv n (cmpStep s) := by
  unfold cmpStep; split
  · exact ⟨h.1, h.1⟩
  · exact h

theorem notTwice_inv (n : Nat) (s : WalkState) (h : SInv n s) : SInv n (notTwice n s) :=
  List.foldlRecOn (motive := SInv n) _ _ h fun s h _ _ =>
    cmpStep_inv n { s with table := notInplace n s.table } ⟨C01.not_WF n _ h.1.1, h.2⟩

theorem swapStep_inv (n : Nat) (s : WalkState) (h : SInv n s) (x : Nat) (hx : 6 ≤ n ∨ x + 1 < n) :
    SInv n { s with table := swapAdjacentInplace s.table x } :=
  ⟨swap_WF n _ h.1 x (x + 1) (hx.imp_right fun h => ⟨Nat.lt_of_succ_lt h, h⟩), h.2⟩

theorem flips_inv (n : Nat) (flips : List Nat) (hf : ∀ f ∈ flips, 6 ≤ n ∨ f < n) (s : WalkState) (h : SInv n s) :
    SInv n (flips.foldl (fun s flip => notTwice n { s with table := flipInplace s.table flip }) s) :=
  List.foldlRecOn (motive := SInv n) _ _ h fun s h f hm =>
    notTwice_inv n { s with table := flipInplace s.table f } ⟨flip_WF n _ h.1 f (hf f hm), h.2⟩

theorem pCanonInd_inv (n : Nat) (t : Array W) (h : WF n t) (swaps : List Nat)
    (hs : ∀ s ∈ swaps, 6 ≤ n ∨ s + 1 < n) : SInv n (pCanonInd t swaps) :=
  List.foldlRecOn (motive := SInv n) _ _ ⟨h, h⟩ fun s h x hm =>
    cmpStep_inv n _ (swapStep_inv n s h x (hs x hm))

theorem npnCanonInd_inv (n : Nat) (t : Array W) (h : WF n t) (swaps flips : List Nat)
    (hs : ∀ s ∈ swaps, 6 ≤ n ∨ s + 1 < n) (hf : ∀ f ∈ flips, 6 ≤ n ∨ f < n) :
    SInv n (npnCanonInd n t swaps flips) :=
  List.foldlRecOn (motive := SInv n) _ _ ⟨h, h⟩ fun s h x hm =>
    flips_inv n flips hf _ (swapStep_inv n s h x (hs x hm))

/-- T1: the hard-coded sequences for n <= 5 only name valid positions -/
theorem tables_valid : ∀ n : Fin 6, (∀ s ∈ (SWAPS[n.val]?).getD [], s + 1 < n.val) ∧
    (∀ f ∈ (FLIPS[n.val]?).getD [], f < n.val) := by decide +kernel

theorem seqs_valid (n : Nat) :
    (∀ sw, swapsFor n = some sw → ∀ s ∈ sw, 6 ≤ n ∨ s + 1 < n) ∧
    (∀ fl, flipsFor n = some fl → ∀ f ∈ fl, 6 ≤ n ∨ f < n) := by
  by_cases h6 : 6 ≤ n
  · exact ⟨fun _ _ _ _ => .inl h6, fun _ _ _ _ => .inl h6⟩
  · have tv := tables_valid ⟨n, Nat.lt_of_not_le h6⟩
    simp only [swapsFor, flipsFor, if_pos (Nat.le_of_not_le h6)]
    exact ⟨fun sw h s hs => .inr (tv.1 s (h ▸ hs)),
      fun fl h f hf => .inr (tv.2 f (h ▸ hf))⟩

theorem pCanonization_WF {n : Nat} {t : Array W} {q : Array W × Array Nat} (hq : pCanonization n t = some q)
    (h : WF n t) : WF n q.1 := by
  unfold pCanonization at hq
  split at hq
  · cases hq; exact h
  · split at hq
    · cases hq
    · next sw hsw =>
      obtain ⟨p, _, rfl⟩ := Option.map_eq_some_iff.mp hq
      exact (pCanonInd_inv n t h sw ((seqs_valid n).1 sw hsw)).2

theorem nCanonization_WF {n : Nat} {t : Array W} {q : Array W × Nat} (hq : nCanonization n t = some q)
    (h : WF n t) : WF n q.1 := by
  unfold nCanonization at hq
  split at hq
  · dsimp only at hq
    split at hq
    · cases hq; exact C01.not_WF n t h.1
    · cases hq; exact h
  · split at hq
    · cases hq
    · next fl hfl =>
      obtain ⟨p, _, rfl⟩ := Option.map_eq_some_iff.mp hq
      exact (flips_inv n fl ((seqs_valid n).2 fl hfl) _ ⟨h, h⟩).2

theorem npnCanonization_WF {n : Nat} {t : Array W} {q : Array W × Array Nat × Nat}
    (hq : npnCanonization n t = some q) (h : WF n t) : WF n q.1 := by
  unfold npnCanonization at hq
  split at hq
  · obtain ⟨q', hq', rfl⟩ := Option.map_eq_some_iff.mp hq
    exact nCanonization_WF hq' h
  · split at hq
    · next sw fl hsw hfl =>
      obtain ⟨p, _, rfl⟩ := Option.map_eq_some_iff.mp hq
      exact (npnCanonInd_inv n t h sw fl ((seqs_valid n).1 sw hsw) ((seqs_valid n).2 fl hfl)).2
    · cases hq

/-- C02, the invariant over histories -/
theorem reachable_WF (l : Lut) (h : Reachable l) : l.WF := by
  induction h with
  | zero n => exact Dyn.zero_WF n
  | one n => exact (C11.one_spec n).1
  | nthVar n i l h => exact (C11.api_nthVar h).2.1
  | parity n => exact (C11.symmetric_spec n _).1
  | majority n => exact (C11.threshold_spec n _).1
  | threshold n k => exact (C11.threshold_spec n k).1
  | equals n k => exact (C11.equals_spec n k).1
  | symmetric n c => exact (C11.symmetric_spec n c).1
  | random n rng => exact (C19.random_WF n rng).1
  | fromBlocks n b l hb h => obtain ⟨_, rfl⟩ := guard_some.mp h; exact hb
  | fromHex n s l h => exact (C09.fromHex_WF n s l h).2
  | not a _ ih => exact C01.not_WF a.n a.t ih.1
  | and a b l _ _ h iha ihb => exact C01.binForm_WF (op := 0) (form := 0) h iha ihb
  | or a b l _ _ h iha ihb => exact C01.binForm_WF (op := 1) (form := 0) h iha ihb
  | xor a b l _ _ h iha ihb => exact C01.binForm_WF (op := 2) (form := 0) h iha ihb
  | flip a i l _ h ih => exact flip_some_WF h ih
  | swap a i j l _ h ih => exact swap_some_WF h ih
  | swapAdjacent a i l _ h ih => exact swap_some_WF (j := i + 1) h ih
  | cofactor0 a i c _ h ih => exact (cofactors_some_WF h ih).1
  | cofactor1 a i c _ h ih => exact (cofactors_some_WF h ih).2
  | fromCofactors a b i l _ _ h iha ihb => exact fromCofactors_some_WF h iha ihb
  | setBit a m l _ h ih => exact setBit_some_WF h ih
  | unsetBit a m l _ h ih => exact unsetBit_some_WF h ih
  | pCanon a r _ h ih => obtain ⟨q, hq, rfl⟩ := Option.map_eq_some_iff.mp h; exact pCanonization_WF hq ih
  | nCanon a r _ h ih => obtain ⟨q, hq, rfl⟩ := Option.map_eq_some_iff.mp h; exact nCanonization_WF hq ih
  | npnCanon a r _ h ih => obtain ⟨q, hq, rfl⟩ := Option.map_eq_some_iff.mp h; exact npnCanonization_WF hq ih
  | next a _ ih => exact (C08.next_spec a ih).2.2.2
  | setValue a m v l _ h ih =>
    cases v
    · exact unsetBit_some_WF h ih
    · exact setBit_some_WF h ih
  | tryFromDyn n a l _ h ih => exact C10.tryFromDyn_some h ▸ ih
  | toDyn a l _ h ih => exact C10.toDyn_some h ▸ ih
  | fromInt n v l hn hv h => cases (C10.fromInt_eq n v hn).symm.trans h; exact (C10.fromInt_spec n v hn hv).1
  | ofSop s => exact tabulate_WF s.n _
  | ofEsop s => exact tabulate_WF s.n _
  | ofSoes s => exact tabulate_WF s.n _

theorem eq_iff_ext (a b : Lut) (ha : a.WF) (hb : b.WF) :
    a = b ↔ a.n = b.n ∧ ∀ m, m < 2 ^ a.n → a.eval m = b.eval m :=
  ⟨fun h => h ▸ ⟨rfl, fun _ _ => rfl⟩, fun ⟨hn, h⟩ => eq_of_eval ha hb hn h⟩

/-- C02, ordering -/
theorem cmp_eq_iff_ext (a b : Lut) (ha : a.WF) (hb : b.WF) :
    Dyn.cmp a b = .eq ↔ a.n = b.n ∧ ∀ m, m < 2 ^ a.n → a.eval m = b.eval m := by
  rw [C08.cmp_eq_iff a b ha hb, eq_iff_ext a b ha hb]

/-- C02, equality and ordering of reachable values: no hidden representation state -/
theorem reachable_ext (a b : Lut) (ha : Reachable a) (hb : Reachable b) :
    (a = b ↔ a.n = b.n ∧ ∀ m, m < 2 ^ a.n → a.eval m = b.eval m) ∧
    (Dyn.cmp a b = .eq ↔ a = b) :=
  ⟨eq_iff_ext a b (reachable_WF a ha) (reachable_WF b hb),
   C08.cmp_eq_iff a b (reachable_WF a ha) (reachable_WF b hb)⟩

/-- C02, block view -/
theorem blocks_view (l : Lut) (h : Reachable l) :
    (Dyn.blocks l).size = max 1 (2 ^ l.n / 64) ∧ ∀ p, 2 ^ l.n ≤ p → bit (Dyn.blocks l) p = false :=
  ⟨(reachable_WF l h).1.trans (tableSize_eq l.n), fun _ => WF_bit_ge (reachable_WF l h)⟩

/-- non-vacuity: two histories of two calls each -/
example : Reachable (Dyn.not (Dyn.majority 3)) := Reachable.not _ (Reachable.majority 3)
example : ∃ l, Dyn.flip (Dyn.majority 3) 1 = some l ∧ Reachable l :=
  ⟨_, rfl, Reachable.flip _ 1 _ (Reachable.majority 3) rfl⟩

end VoluteModel.Props.C02
