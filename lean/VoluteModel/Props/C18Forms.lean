import VoluteModel.Props.C18Ilp
import VoluteModel.Props.C18
import VoluteModel.Lemmas.ListFacts

/-!
# C18: the optimum of the programme is the minimum over ALL two-level forms

A two-level form is one list of terms per output.  Its terms are candidates, and the selection it
induces - for XOR lists with repeated cubes, which cancel in value: the cubes occurring an odd number of
times - realises the outputs and costs no more than the form.
-/

namespace VoluteModel.Mip
open VoluteModel.Optim

/-- the documented cost (`cost`) of a form given as one list of terms per output -/
def formCost (A X O : Int) (fam : List (List Term)) : Rat :=
  ((fam.flatten.eraseDups).map (fun t => ((t.cost A X : Int) : Rat))).sum +
    (O : Rat) * (fam.map (fun l => joinGates l.length)).sum

/-- the selection a form induces through `r`: membership for OR forms, odd multiplicity for XOR lists -/
def selBy (r : Term → List Term → Bool) (cands : List Term) (fam : List (List Term)) (i j : Nat) : Bool :=
  match cands[i]?, fam[j]? with
  | some t, some l => r t l
  | _, _ => false

/-- the selection over the candidate list that a form induces -/
def selOf (cands : List Term) (fam : List (List Term)) (i j : Nat) : Bool :=
  match cands[i]?, fam[j]? with
  | some t, some l => decide (t ∈ l)
  | _, _ => false

section selBy
variable {r : Term → List Term → Bool} {cands : List Term} {fs : List Lut} {A X O : Int} {fam : List (List Term)}

theorem selBy_eq {i j : Nat} (hi : i < cands.length) (hj : j < fam.length) : selBy r cands fam i j = r cands[i] fam[j] := by
  simp only [selBy, List.getElem?_eq_getElem hi, List.getElem?_eq_getElem hj]

theorem selOf_iff {i j : Nat} (hi : i < cands.length) (hj : j < fam.length) : selOf cands fam i j = true ↔ cands[i] ∈ fam[j] := by
  rw [show selOf cands fam = selBy (fun t l => decide (t ∈ l)) cands fam from rfl, selBy_eq hi hj, decide_eq_true_iff]

theorem selBy_congr {r' : Term → List Term → Bool} (h : ∀ t, ∀ l ∈ fam, r t l = r' t l) : selBy r cands fam = selBy r' cands fam := by
  funext i j
  unfold selBy
  split
  · rename_i t l _ hl
    exact h t l (List.mem_of_getElem? hl)
  · rfl

theorem cntAt_selBy {j : Nat} (hj : j < fam.length) (b : Nat) :
    cntAt (probOf cands fs A X O) (selBy r cands fam) j (fun i => (probOf cands fs A X O).val i b) =
      cands.countP (fun t => t.value b && r t fam[j]) :=
  countP_range_eq cands _ _ fun i hi => by
    show ((probOf cands fs A X O).val i b && _) = _
    rw [probOf_val hi, selBy_eq hi hj]

/-- the cost of an induced selection read on the candidates and the lists instead of their indices -/
theorem cost_selBy (hlen : fam.length = fs.length) :
    cost (probOf cands fs A X O) (selBy r cands fam) =
      (cands.map (fun t => if fam.any (r t) then ((t.cost A X : Int) : Rat) else 0)).sum +
        (O : Rat) * (fam.map (fun l => joinGates (cands.countP (fun t => r t l)))).sum := by
  have hF : (probOf cands fs A X O).F = fam.length := hlen.symm
  unfold cost rangeF
  rw [hF]
  congr 2
  · refine map_range_eq cands _ (fun t => if fam.any (r t) then ((t.cost A X : Int) : Rat) else 0) fun i hi => ?_
    rw [probOf_w hi, usedBy, rangeF, hF, any_range_eq fam _ (r cands[i]) fun j hj => selBy_eq hi hj]
  · refine congrArg List.sum (map_range_eq fam _ _ fun j hj => ?_)
    exact congrArg joinGates (countP_range_eq cands _ _ fun i hi => selBy_eq hi hj)

/-- the distinct candidates in use are among the distinct terms of the form, and an output selects at
    most as many candidates as its list is long; `hr` is all that is asked of `r` -/
theorem selBy_cost_le (hr : ∀ t l, r t l = true → t ∈ l) (hO : 0 ≤ O) (hcost : ∀ t ∈ cands, 0 ≤ t.cost A X)
    (hlen : fam.length = fs.length) (hnd : cands.Nodup) (hin : ∀ l ∈ fam, ∀ t ∈ l, t ∈ cands) :
    cost (probOf cands fs A X O) (selBy r cands fam) ≤ formCost A X O fam := by
  rw [cost_selBy hlen, formCost, sum_filter_rat]
  refine add_le_add_rat (sum_le_of_nodup_subset_rat (fun t ht => ?_) (hnd.filter _) fun t ht => ?_)
    (Rat.mul_le_mul_of_nonneg_left (sum_le_sum_rat fun l _ => joinGates_mono _ _ ?_) (by exact_mod_cast hO))
  · obtain ⟨l, hl, hm⟩ := List.mem_flatten.mp (List.mem_eraseDups.mp ht)
    exact_mod_cast hcost t (hin l hl t hm)
  · obtain ⟨l, hl, hrt⟩ := List.any_eq_true.mp (List.mem_filter.mp ht).2
    exact List.mem_eraseDups.mpr (List.mem_flatten.mpr ⟨l, hl, hr t l hrt⟩)
  · rw [List.countP_eq_length_filter]
    exact List.Nodup.length_le_of_subset (hnd.filter _) fun t ht => hr t l (List.mem_filter.mp ht).2

end selBy

/-- C18, forms are selections: an OR form by implicants over the candidates, at no higher cost -/
theorem form_to_selection (cands : List Term) (fs : List Lut) (A X O : Int) (hO : 0 ≤ O)
    (hcost : ∀ t ∈ cands, 0 ≤ t.cost A X) (fam : List (List Term)) (hlen : fam.length = fs.length)
    (hnd : cands.Nodup) (hin : ∀ l ∈ fam, ∀ t ∈ l, t ∈ cands)
    (himp : ∀ j (h1 : j < fam.length) (h2 : j < fs.length), ∀ t ∈ fam[j], t.impliesLut fs[j] = true)
    (hcov : ∀ j (h1 : j < fam.length) (h2 : j < fs.length) b, b < (probOf cands fs A X O).B →
      getBit fs[j].t b = true → ∃ t ∈ fam[j], t.value b = true) :
    OrRealises (probOf cands fs A X O) (selOf cands fam) ∧
      cost (probOf cands fs A X O) (selOf cands fam) ≤ formCost A X O fam := by
  refine ⟨orRealises_probOf.mpr ⟨fun i j hi hj hs => ?_, fun j b hj hb hf => ?_⟩,
    selBy_cost_le (fun _ _ => of_decide_eq_true) hO hcost hlen hnd hin⟩
  · have hj' : j < fam.length := hlen ▸ hj
    exact himp j hj' hj _ ((selOf_iff hi hj').mp hs)
  · have hj' : j < fam.length := hlen ▸ hj
    obtain ⟨t, ht, hv⟩ := hcov j hj' hj b hb hf
    obtain ⟨i, hi, rfl⟩ := List.getElem_of_mem (hin _ (List.getElem_mem hj') t ht)
    exact ⟨i, hi, (selOf_iff hi hj').mpr ht, hv⟩

def selOdd : List Term → List (List Term) → Nat → Nat → Bool := selBy fun t l => l.count t % 2 == 1

/-- the same for XOR lists, repetitions allowed: the candidates occurring an odd number of times -/
theorem xor_form_to_selection_multi (cands : List Term) (fs : List Lut) (A X O : Int) (hO : 0 ≤ O)
    (hcost : ∀ t ∈ cands, 0 ≤ t.cost A X) (fam : List (List Term)) (hlen : fam.length = fs.length)
    (hnd : cands.Nodup) (hin : ∀ l ∈ fam, ∀ t ∈ l, t ∈ cands)
    (hval : ∀ j (h1 : j < fam.length) (h2 : j < fs.length) b, b < (probOf cands fs A X O).B →
      getBit fs[j].t b = (fam[j].map (·.value b)).foldl (fun a v => a != v) false) :
    XorRealises (probOf cands fs A X O) (selOdd cands fam) ∧
      cost (probOf cands fs A X O) (selOdd cands fam) ≤ formCost A X O fam := by
  refine ⟨fun j b hj hb => ?_, selBy_cost_le (fun t l h => ?_) hO hcost hlen hnd hin⟩
  · have hj' : j < fam.length := hlen ▸ hj
    rw [probOf_fv hj, hval j hj' hj b hb, List.foldl_map, selOdd, cntAt_selBy hj',
      ← xorl_countP]
    exact (xorl_odd_count cands hnd _ _ (hin _ (List.getElem_mem hj'))).symm
  · have hodd : l.count t % 2 = 1 := of_decide_eq_true h
    exact List.count_pos_iff.mp (Nat.pos_of_ne_zero fun h0 => by rw [h0] at hodd; cases hodd)

/-- the case of duplicate-free lists, where odd multiplicity is membership -/
theorem xor_form_to_selection (cands : List Term) (fs : List Lut) (A X O : Int) (hO : 0 ≤ O)
    (hcost : ∀ t ∈ cands, 0 ≤ t.cost A X) (fam : List (List Term)) (hlen : fam.length = fs.length)
    (hnd : cands.Nodup) (hin : ∀ l ∈ fam, ∀ t ∈ l, t ∈ cands) (hfnd : ∀ l ∈ fam, l.Nodup)
    (hval : ∀ j (h1 : j < fam.length) (h2 : j < fs.length) b, b < (probOf cands fs A X O).B →
      getBit fs[j].t b = (fam[j].map (·.value b)).foldl (fun a v => a != v) false) :
    XorRealises (probOf cands fs A X O) (selOf cands fam) ∧
      cost (probOf cands fs A X O) (selOf cands fam) ≤ formCost A X O fam := by
  rw [show selOf cands fam = selOdd cands fam from selBy_congr fun t l hl => by
    rw [(hfnd l hl).count]; split <;> simp [*]]
  exact xor_form_to_selection_multi cands fs A X O hO hcost fam hlen hnd hin hval

theorem ecubeLe_iff (a b : Ecube) : ecubeLe a b = true ↔
    a.vars.toNat < b.vars.toNat ∨ (a.vars.toNat = b.vars.toNat ∧ a.xnor.toNat ≤ b.xnor.toNat) := by
  simp only [ecubeLe, Bool.or_eq_true, Bool.and_eq_true, decide_eq_true_eq, bv_beq_iff, BitVec.toNat_inj]
  refine or_congr_right (and_congr_right fun _ => ?_)
  cases a.xnor <;> cases b.xnor <;> decide

theorem ecube_keys_inj (a b : Ecube) (hv : a.vars.toNat = b.vars.toNat) (hx : a.xnor.toNat = b.xnor.toNat) : a = b := by
  have hx' : a.xnor.toNat = b.xnor.toNat → a.xnor = b.xnor := by cases a.xnor <;> cases b.xnor <;> decide
  rw [Ecube.mk.injEq]; exact ⟨BitVec.eq_of_toNat_eq hv, hx' hx⟩

/-- `mem_valid_multi` for the exclusive candidates (two literals or more) -/
theorem mem_valid_ecubes_multi (fs : List Lut) :
    (enumerateValidEcubesMulti fs).Nodup ∧
    ∀ e, e ∈ enumerateValidEcubesMulti fs ↔
      (∃ f ∈ fs, e ∈ Ecube.all f.n ∧ e.impliesLut f = true) ∧ e.numLits ≥ 2 := by
  obtain ⟨h1, h2⟩ := sort_dedup_lex ecubeLe ecubeLe_iff ecube_keys_inj
    ((fs.flatMap enumerateValidEcubes).filter (fun c => c.numLits ≥ 2))
  exact ⟨h1, fun e => (h2 e).trans (by
    simp only [List.mem_filter, List.mem_flatMap, enumerateValidEcubes, decide_eq_true_eq])⟩

theorem sopTerms_nodup (fs : List Lut) (X : Int) : (sopTerms fs X).Nodup := by
  unfold sopTerms
  refine List.nodup_append.mpr ⟨nodup_map_of_injOn (VoluteModel.Props.C18.mem_valid_multi fs).1 fun _ _ _ _ => Term.cube.inj, ?_, ?_⟩
  · split
    · exact nodup_map_of_injOn (mem_valid_ecubes_multi fs).1 fun _ _ _ _ => Term.ecube.inj
    · exact List.nodup_nil
  · intro a ha b hb
    obtain ⟨c, _, rfl⟩ := List.mem_map.mp ha
    split at hb
    · obtain ⟨e, _, rfl⟩ := List.mem_map.mp hb
      exact nofun
    · cases hb

/-- a term a form may use: a cube over the variables or, when allowed (`X >= 0`), an exclusive cube of
    two literals or more (shorter ones are constants and literals, i.e. cubes) -/
def Term.wellFormed (n0 : Nat) (X : Int) : Term → Prop
  | .cube c => c ∈ Cube.all n0
  | .ecube e => X ≥ 0 ∧ e ∈ Ecube.all n0 ∧ e.numLits ≥ 2

/-- the candidate list is complete -/
theorem mem_sopTerms {fs : List Lut} {X : Int} {t : Term} {f : Lut} (hf : f ∈ fs) (hw : t.wellFormed f.n X)
    (hi : t.impliesLut f = true) : t ∈ sopTerms fs X := by
  cases t with
  | cube c =>
    refine List.mem_append_left _ (List.mem_map_of_mem (((VoluteModel.Props.C18.mem_valid_multi fs).2 c).mpr ⟨f, hf, ?_⟩))
    exact (VoluteModel.Props.C18.mem_valid f c).mpr ⟨hw, hi⟩
  | ecube e =>
    refine List.mem_append_right _ ?_
    rw [if_pos hw.1]
    exact List.mem_map_of_mem (((mem_valid_ecubes_multi fs).2 e).mpr ⟨⟨f, hf, hw.2.1, hi⟩, hw.2.2⟩)

/-- `Cube::all(n)` lists every cube once (n <= 32, the width of the masks) -/
theorem cube_all_nodup (n : Nat) (hn : n ≤ 32) : (Cube.all n).Nodup :=
  List.Pairwise.filter _ (nodup_flatMap_map List.nodup_range (fun _ _ => List.nodup_range)
    fun _ hi _ hj _ hi' _ hj' e =>
      ⟨VoluteModel.Cubes.ofNat32_inj hn hi hi' (Cube.mk.inj e).1,
        VoluteModel.Cubes.ofNat32_inj hn hj hj' (Cube.mk.inj e).2⟩)

/-- C18, minimum over ALL forms, `optimize_sop_mip` / `optimize_sopes_mip`: lists of implicant terms covering every output -/
theorem sop_mip_minimal (fs : List Lut) (A X O : Int) (hA : 1 ≤ A) (hO : 1 ≤ O) (n0 : Nat) (hn : ∀ l ∈ fs, l.n = n0)
    (σ : Var → Rat) (hf : SopFeasible (sopProb fs A X O) σ)
    (hopt : ∀ σ', SopFeasible (sopProb fs A X O) σ' → objective (sopProb fs A X O) σ ≤ objective (sopProb fs A X O) σ')
    (fam : List (List Term)) (hlen : fam.length = fs.length)
    (hwf : ∀ l ∈ fam, ∀ t ∈ l, t.wellFormed n0 X)
    (himp : ∀ j (h1 : j < fam.length) (h2 : j < fs.length), ∀ t ∈ fam[j], t.impliesLut fs[j] = true)
    (hcov : ∀ j (h1 : j < fam.length) (h2 : j < fs.length) b, b < 2 ^ n0 →
      getBit fs[j].t b = true → ∃ t ∈ fam[j], t.value b = true) :
    cost (sopProb fs A X O) (decode σ) ≤ formCost A X O fam := by
  have hmin := (sop_mip_spec fs A X O hA hO n0 hn σ hf hopt).2.2
  have hin : ∀ l ∈ fam, ∀ t ∈ l, t ∈ sopTerms fs X := by
    intro l hl t ht
    obtain ⟨j, hj, rfl⟩ := List.getElem_of_mem hl
    have hj2 : j < fs.length := hlen ▸ hj
    exact mem_sopTerms (List.getElem_mem hj2) (hn _ (List.getElem_mem hj2) ▸ hwf _ hl t ht) (himp j hj hj2 t ht)
  obtain ⟨hr, hc⟩ := form_to_selection (sopTerms fs X) fs A X O (Int.le_of_lt hO) (sopTerms_cost_nonneg fs A X (Int.le_of_lt hA))
    fam hlen (sopTerms_nodup fs X) hin himp fun j h1 h2 b hb =>
      hcov j h1 h2 b (by rwa [probOf_B hn (List.ne_nil_of_length_pos (Nat.zero_lt_of_lt h2))] at hb)
  exact Rat.le_trans (hmin _ hr) hc

/-- the same for `optimize_esop_mip`: lists of cubes, repetitions allowed, whose XOR is the output -/
theorem esop_mip_minimal_general (fs : List Lut) (A X : Int) (hA : 1 ≤ A) (hX : 1 ≤ X) (n0 : Nat) (hn0 : n0 ≤ 32)
    (hn : ∀ l ∈ fs, l.n = n0) (hne : fs ≠ [])
    (σ : Var → Rat) (hf : EsopFeasible (esopProb fs A X) σ)
    (hopt : ∀ σ', EsopFeasible (esopProb fs A X) σ' → objective (esopProb fs A X) σ ≤ objective (esopProb fs A X) σ')
    (fam : List (List Cube)) (hlen : fam.length = fs.length)
    (hwf : ∀ l ∈ fam, ∀ c ∈ l, c ∈ Cube.all n0)
    (hval : ∀ j (h1 : j < fam.length) (h2 : j < fs.length) b, b < 2 ^ n0 →
      getBit fs[j].t b = (fam[j].map (·.value b)).foldl (fun a v => a != v) false) :
    cost (esopProb fs A X) (decode σ) ≤ formCost A X X (fam.map (·.map Term.cube)) := by
  have hmin := (esop_mip_spec fs A X hA hX n0 hn σ hf hopt).2
  have hterms : esopTerms fs = (Cube.all n0).map Term.cube := by rw [esopTerms, firstNumVars_eq hn hne]
  have hnd : (esopTerms fs).Nodup := hterms ▸ nodup_map_of_injOn (cube_all_nodup n0 hn0) fun _ _ _ _ => Term.cube.inj
  have hin : ∀ l ∈ fam.map (·.map Term.cube), ∀ t ∈ l, t ∈ esopTerms fs := by
    simp only [List.forall_mem_map, hterms]
    exact fun l hl c hc => List.mem_map_of_mem (hwf l hl c hc)
  obtain ⟨hr, hc⟩ := xor_form_to_selection_multi (esopTerms fs) fs A X X (Int.le_of_lt hX) (esopTerms_cost_nonneg fs A X (Int.le_of_lt hA))
    (fam.map (·.map Term.cube)) ((List.length_map _).trans hlen) hnd hin fun j h1 h2 b hb => by
      have h1' : j < fam.length := by rwa [List.length_map] at h1
      rw [hval j h1' h2 b (by rwa [probOf_B hn hne] at hb), List.getElem_map, List.map_map]
      rfl
  exact Rat.le_trans (hmin _ hr) hc

/-- the case of duplicate-free lists -/
theorem esop_mip_minimal (fs : List Lut) (A X : Int) (hA : 1 ≤ A) (hX : 1 ≤ X) (n0 : Nat) (hn0 : n0 ≤ 32)
    (hn : ∀ l ∈ fs, l.n = n0) (hne : fs ≠ [])
    (σ : Var → Rat) (hf : EsopFeasible (esopProb fs A X) σ)
    (hopt : ∀ σ', EsopFeasible (esopProb fs A X) σ' → objective (esopProb fs A X) σ ≤ objective (esopProb fs A X) σ')
    (fam : List (List Cube)) (hlen : fam.length = fs.length)
    (hwf : ∀ l ∈ fam, l.Nodup ∧ ∀ c ∈ l, c ∈ Cube.all n0)
    (hval : ∀ j (h1 : j < fam.length) (h2 : j < fs.length) b, b < 2 ^ n0 →
      getBit fs[j].t b = (fam[j].map (·.value b)).foldl (fun a v => a != v) false) :
    cost (esopProb fs A X) (decode σ) ≤ formCost A X X (fam.map (·.map Term.cube)) :=
  esop_mip_minimal_general fs A X hA hX n0 hn0 hn hne σ hf hopt fam hlen (fun l hl => (hwf l hl).2) hval

end VoluteModel.Mip
