import VoluteModel.Model.Api
import VoluteModel.Lemmas.Bits
import VoluteModel.Lemmas.Guards
import VoluteModel.Props.C01

/-!
# C10 - StaticLut behaves like Lut; conversions are lossless

A `StaticLut<N,T>` is a `Lut` with `n = N`.  Most methods of the two types are one model definition; those
static_lut.rs implements separately have their own in `Stat`, and the dynamic one is the static one
behind a size check.  Where that is `rfl` the model mirrors the source; the content is then the
correspondence run, which compares the two Rust types with each other and with the model.
-/

namespace VoluteModel.Props.C10

/-! C10, same operation, corresponding results.  The `*_factor` equations (for the operators:
`C01.binForm_factor`) hold for all arguments; the `*_agree` statements are their `check passes` side, the
panics of C17 the other. -/

theorem fromCofactors_factor (c0 c1 : Lut) (i : Nat) :
    Dyn.fromCofactors c0 c1 i = if c0.n != c1.n then none else Stat.fromCofactors c0 c1 i := rfl

theorem bdd_factor (l0 : Lut) (ls : List Lut) :
    Dyn.bddComplexity (l0 :: ls) =
      if (l0 :: ls).all (fun l => l.n == l0.n) then Stat.bddComplexity l0.n (l0 :: ls) else none := rfl

theorem binForm_agree (op form : Nat) (a b : Lut) (hn : a.n = b.n) :
    Stat.binForm op form a b = Dyn.binForm op form a b := by
  rw [C01.binForm_factor, if_pos (beq_iff_eq.mpr hn)]

theorem fromCofactors_agree (c0 c1 : Lut) (i : Nat) (hn : c0.n = c1.n) :
    Stat.fromCofactors c0 c1 i = Dyn.fromCofactors c0 c1 i := by
  rw [fromCofactors_factor, if_neg (by simp [hn])]

theorem fromBlocks_agree (n : Nat) (b : Array W) : Stat.fromBlocks n b = Dyn.fromBlocks n b := rfl

theorem cmp_agree (a b : Lut) (hn : a.n = b.n) : Stat.cmp a b = Dyn.cmp a b := by
  rw [Dyn.cmp, if_neg (by simp [hn])]
  rfl

theorem bdd_agree (n : Nat) (l0 : Lut) (ls : List Lut) (h : ∀ l ∈ l0 :: ls, l.n = n) :
    Stat.bddComplexity n (l0 :: ls) = Dyn.bddComplexity (l0 :: ls) := by
  have hall : (l0 :: ls).all (fun l => l.n == l0.n) = true :=
    List.all_eq_true.mpr fun l hl => beq_iff_eq.mpr ((h l hl).trans (h l0 List.mem_cons_self).symm)
  rw [bdd_factor, if_pos hall, h l0 List.mem_cons_self]

/-- C10, conversions (four theorems): `LutN` to `Lut`, `Lut` to `LutN` (fails exactly on another size), back and forth -/
theorem toDyn_spec (l : Lut) (hl : l.WF) : Stat.toDyn l = some l :=
  if_pos (beq_iff_eq.mpr hl.1)

theorem tryFromDyn_spec (n : Nat) (l : Lut) (hl : l.WF) :
    (l.n = n → Stat.tryFromDyn n l = some l) ∧ (l.n ≠ n → Stat.tryFromDyn n l = none) := by
  refine ⟨fun h => ?_, fun h => if_pos (bne_iff_ne.mpr h)⟩
  subst h
  exact (if_neg (by simp)).trans (toDyn_spec l hl)

/-- for C02's induction -/
theorem toDyn_some {a l : Lut} (h : Stat.toDyn a = some l) : l = a :=
  (guard_some.mp h).2.symm

theorem tryFromDyn_some {n : Nat} {a l : Lut} (h : Stat.tryFromDyn n a = some l) : l = a := by
  obtain ⟨hn, h⟩ := Option.ite_none_left_eq_some.mp h
  obtain ⟨_, rfl⟩ := guard_some.mp h
  rw [← Decidable.of_not_not (mt bne_iff_ne.mpr hn)]

theorem roundtrip (l : Lut) (hl : l.WF) : (Stat.toDyn l).bind (Stat.tryFromDyn l.n) = some l := by
  rw [toDyn_spec l hl]; exact (tryFromDyn_spec l.n l hl).1 rfl

/-- static_lut.rs:622-668: the mask on the way out keeps the low `2^N` bits of the word (`Lut6`: all of it) -/
theorem toInt_eq (l : Lut) (hn : l.n ≤ 6) : Stat.toInt l = (l.t[0]?.getD 0).toNat % 2 ^ (2 ^ l.n) := by
  unfold Stat.toInt
  split
  · next h6 =>
    rw [eq_of_beq h6]
    exact (Nat.mod_eq_of_lt (BitVec.isLt _)).symm
  · next h6 =>
    have h6 : l.n < 6 := Nat.lt_of_le_of_ne hn fun h => h6 (beq_iff_eq.mpr h)
    -- `!VAR_MASK[n]` holds every position below `2^n`
    refine Nat.eq_of_testBit_eq fun i => ?_
    rw [Nat.testBit_mod_two_pow, Nat.testBit_mod_two_pow]
    by_cases hi : i < 2 ^ l.n
    · have h64 : i < 64 := Nat.lt_of_lt_of_le hi (two_pow_le_64 hn)
      rw [BitVec.testBit_toNat, BitVec.testBit_toNat, BitVec.getLsbD_and, BitVec.getLsbD_not,
        varMask_getLsbD l.n h6 i, Nat.testBit_lt_two_pow hi, Bool.and_false, decide_eq_true h64, Bool.not_false,
        Bool.and_true, Bool.and_true]
    · rw [decide_eq_false hi, Bool.false_and, Bool.false_and]

/-- C10, bit m of the integer is f(m); `3 ≤ n` mirrors which conversions exist (`Lut3` .. `Lut6`), the
    proof uses `n ≤ 6` only (likewise in `int_roundtrip`) -/
theorem toInt_testBit (l : Lut) (hn : 3 ≤ l.n ∧ l.n ≤ 6) (m : Nat) (hm : m < 2 ^ l.n) :
    (Stat.toInt l).testBit m = l.eval m := by
  have h64 : m < 64 := Nat.lt_of_lt_of_le hm (two_pow_le_64 hn.2)
  rw [toInt_eq l hn.2, Nat.testBit_mod_two_pow, decide_eq_true hm, Bool.true_and, Lut.eval,
    bit_of_split ⟨Nat.div_eq_of_lt h64, Nat.mod_eq_of_lt h64⟩, BitVec.testBit_toNat]

/-- `from_blocks(&[v as u64])`: one word is the right length up to `Lut6` -/
theorem fromInt_eq (n v : Nat) (hn : n ≤ 6) : Stat.fromInt n v = some ⟨n, #[BitVec.ofNat 64 v]⟩ := by
  simp [Stat.fromInt, Stat.fromBlocks, tableSize_le6 hn]

theorem fromInt_spec (n v : Nat) (hn : n ≤ 6) (hv : v < 2 ^ (2 ^ n)) :
    WF n #[BitVec.ofNat 64 v] ∧ ∀ m, m < 2 ^ n → bit #[BitVec.ofNat 64 v] m = v.testBit m := by
  refine (masked_words (by simp [tableSize_le6 hn]) (fun _ b => v.testBit b) fun k hk b hb => ?_).imp_right
    fun h m hm => by rw [h m hm, Nat.mod_eq_of_lt (Nat.lt_of_lt_of_le hm (two_pow_le_64 hn))]
  obtain rfl : k = 0 := by simpa using hk
  rw [List.getElem_toArray, List.getElem_cons_zero, ofNat_bit v hb]
  by_cases hlt : b < 2 ^ n
  · rw [decide_eq_true hlt, Bool.and_true]
  · rw [decide_eq_false hlt, Bool.and_false]
    exact Bool.eq_false_iff.mpr fun h => hlt (lt_of_testBit hv h)

/-- C10, int to `LutN` and back -/
theorem int_roundtrip (n v : Nat) (hn : 3 ≤ n ∧ n ≤ 6) (hv : v < 2 ^ (2 ^ n)) :
    (Stat.fromInt n v).map Stat.toInt = some v := by
  have h64 : v < 2 ^ 64 := Nat.lt_of_lt_of_le hv (Nat.pow_le_pow_right (by decide) (two_pow_le_64 hn.2))
  rw [fromInt_eq n v hn.2, Option.map_some, toInt_eq _ hn.2]
  simp [Nat.mod_eq_of_lt h64, Nat.mod_eq_of_lt hv]

/-- non-vacuity: majority of three variables as a `u8` and back -/
example : Stat.toInt ⟨3, #[0xe8#64]⟩ = 0xe8 ∧ Stat.fromInt 3 0xe8 = some ⟨3, #[0xe8#64]⟩ := by
  constructor <;> decide +kernel

end VoluteModel.Props.C10
