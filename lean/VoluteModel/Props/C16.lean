import VoluteModel.Lemmas.Lexer
import VoluteModel.Lemmas.XorFold
import VoluteModel.Props.C12
import VoluteModel.Props.C13
import VoluteModel.Props.C14

/-!
# C16 - the printed text of cubes and two-level forms is a formula denoting the same function

Every `Display` output is `render` of a token list that lexes back (Lemmas/Lexer.lean) and that the
grammar's evaluator (Spec/EvalText.lean) maps to the value of the object: `Prints` says so for one
level of the grammar, `Prints.join` takes joined pieces one level up.
-/

namespace VoluteModel.Props.C16
open VoluteModel.Spec VoluteModel.Cubes VoluteModel.Props.C12

/-- The text `s` stands for `v` at the level with evaluator `ev`: it is `render` of tokens `ts` that are `WFT`
    (so `lex` gives them back), hold no operator of `ops` (so splitting a longer list at one leaves `ts`
    whole), and that `ev` maps to `v`. -/
def Prints {β : Type} (ops : List Tok) (ev : List Tok → Option β) (s : List Nat) (v : β) : Prop :=
  ∃ ts, s = render ts ∧ WFT ts ∧ (∀ o ∈ ops, o ∉ ts) ∧ ev ts = some v

theorem Prints.text {a : Nat} {s : List Nat} {v : Bool} (h : Prints [] (evalFormula a) s v) :
    evalText s a = some v := by
  obtain ⟨ts, rfl, w, _, hv⟩ := h
  rw [evalText, lex_render ts w, Option.bind_some, hv]

theorem Prints.map {β γ : Type} {ops : List Tok} {ev : List Tok → Option β} {s : List Nat} {v : β}
    (h : Prints ops ev s v) (f : β → γ) : Prints ops (fun ts => (ev ts).map f) s (f v) := by
  obtain ⟨ts, e, w, no, hv⟩ := h
  exact ⟨ts, e, w, no, congrArg (Option.map f) hv⟩

section join
variable {sep : Tok} {ops : List Tok} {lower : List Tok → Option Bool} {s s' : List Nat} {v : Bool} {vs : List Bool}

theorem Prints.single (h : Prints (sep :: ops) lower s v) :
    Prints ops (fun ts => (splitTok sep ts).mapM lower) s [v] := by
  obtain ⟨ts, e, w, no, hv⟩ := h
  refine ⟨ts, e, w, fun o ho => no o (List.mem_cons_of_mem _ ho), ?_⟩
  show (splitTok sep ts).mapM lower = _
  rw [splitTok_nosep _ _ (no sep List.mem_cons_self), List.mapM_cons, hv]
  rfl

theorem Prints.cons (hs : sep = .xor ∨ sep = .or) (hops : sep ∉ ops) (h : Prints (sep :: ops) lower s v)
    (h' : Prints ops (fun ts => (splitTok sep ts).mapM lower) s' vs) :
    Prints ops (fun ts => (splitTok sep ts).mapM lower) (s ++ render [sep] ++ s') (v :: vs) := by
  obtain ⟨ts, rfl, w, no, hv⟩ := h
  obtain ⟨tt, rfl, w', no', hv'⟩ := h'
  replace hv' : (splitTok sep tt).mapM lower = some vs := hv'
  -- an operator in front: `WFT` passes over it and it is no constant, both by computation
  have hsep : WFT (sep :: tt) ∧ NoConstHead (sep :: tt) := by
    rcases hs with rfl | rfl <;> exact ⟨w', trivial⟩
  refine ⟨ts ++ sep :: tt, ?_, WFT_append ts _ w hsep.1 hsep.2, fun o ho => ?_, ?_⟩
  · rw [render_append, List.append_assoc, ← render_append [sep]]
    rfl
  · rw [List.mem_append, List.mem_cons, not_or, not_or]
    exact ⟨no o (List.mem_cons_of_mem _ ho), fun e => hops (e ▸ ho), no' o ho⟩
  · show (splitTok sep (ts ++ sep :: tt)).mapM lower = _
    rw [splitTok_append_sep _ _ _ (no sep List.mem_cons_self), List.mapM_cons, hv, hv']
    rfl

theorem Prints.join {α : Type} (hs : sep = .xor ∨ sep = .or) (hops : sep ∉ ops)
    (pr : α → List Nat) (val : α → Bool) (xs : List α) (hne : xs ≠ [])
    (h : ∀ x ∈ xs, Prints (sep :: ops) lower (pr x) (val x)) :
    Prints ops (fun ts => (splitTok sep ts).mapM lower) (Display.joinWith (render [sep]) (xs.map pr))
      (xs.map val) := by
  cases xs with
  | nil => exact absurd rfl hne
  | cons x rest =>
    clear hne
    induction rest generalizing x with
    | nil => exact (h x List.mem_cons_self).single
    | cons y rest ih => exact (h x List.mem_cons_self).cons hs hops (ih y fun z hz => h z (List.mem_cons_of_mem _ hz))

end join

theorem render_xor : render [Tok.xor] = [32, 94, 32] := rfl
theorem render_or : render [Tok.or] = [32, 124, 32] := rfl

theorem xor_join {α : Type} (a : Nat) (pr : α → List Nat) (val : α → Bool) (xs : List α) (hne : xs ≠ [])
    (h : ∀ x ∈ xs, Prints [.xor, .or] (evalProduct a) (pr x) (val x)) :
    Prints [.or] (evalTerm a) (Display.joinWith [32, 94, 32] (xs.map pr)) (xorl xs val) := by
  -- `evalTerm a` unfolds to the evaluator of `h` (as `evalFormula a` does in `or_join`)
  have h := (Prints.join (.inl rfl) (by decide) pr val xs hne h).map (xorl · id)
  rwa [render_xor, xorl_map] at h

theorem or_join {α : Type} (a : Nat) (pr : α → List Nat) (val : α → Bool) (xs : List α) (hne : xs ≠ [])
    (h : ∀ x ∈ xs, Prints [.or] (evalTerm a) (pr x) (val x)) :
    Prints [] (evalFormula a) (Display.joinWith [32, 124, 32] (xs.map pr)) (xs.any val) := by
  have h := (Prints.join (.inr rfl) (by decide) pr val xs hne h).map (·.any id)
  rwa [render_or, List.any_map] at h

theorem Prints.term {a : Nat} {s : List Nat} {v : Bool} (h : Prints [.xor, .or] (evalProduct a) s v) :
    Prints [.or] (evalTerm a) s v :=
  -- unfolding as in `xor_join`; `xorl [v] id` is `false != v`
  Bool.false_bne v ▸ h.single.map (xorl · id)

theorem Prints.formula {a : Nat} {s : List Nat} {v : Bool} (h : Prints [.or] (evalTerm a) s v) :
    Prints [] (evalFormula a) s v :=
  -- likewise, `[v].any id` is `v || false`
  Bool.or_false v ▸ h.single.map (·.any id)

theorem xLit_render (i : Nat) : Display.xLit i = render [.var i] := by
  simp [render, Display.xLit]

theorem zero_product (a : Nat) : Prints [.xor, .or] (evalProduct a) [48] false :=
  ⟨[.zero], rfl, trivial, by decide, rfl⟩

theorem one_product (a : Nat) : Prints [.xor, .or] (evalProduct a) [49] true :=
  ⟨[.one], rfl, trivial, by decide, rfl⟩

theorem var_product (a k : Nat) (hk : k < 32) : Prints [.xor, .or] (evalProduct a) (Display.xLit k) (a.testBit k) :=
  ⟨[.var k], xLit_render k, (WFT_cons_var k []).mpr ⟨hk, trivial, trivial⟩, by simp, by
    show some ((a.testBit k != false) && true) = _
    rw [Bool.bne_false, Bool.and_true]⟩

/-- `Display.cubeLoop` at token level (`cubeLoop_render`) -/
def cubeLoopToks : Nat → W32 → W32 → Nat → List Tok
  | 0, _, _, _ => []
  | fuel + 1, pos, neg, i =>
    if pos != 0 || neg != 0 then
      (if pos &&& 1 != 0 then [Tok.var i] else []) ++
      (if neg &&& 1 != 0 then [Tok.not, Tok.var i] else []) ++
      cubeLoopToks fuel (pos >>> 1) (neg >>> 1) (i + 1)
    else []

theorem cubeLoop_render (fuel : Nat) (p q : W32) (i : Nat) :
    Display.cubeLoop fuel p q i = render (cubeLoopToks fuel p q i) := by
  induction fuel generalizing p q i with
  | zero => rfl
  | succ f ih =>
    simp only [Display.cubeLoop, cubeLoopToks, apply_ite render, render_append, ih, xLit_render]
    rfl

/-- the tokens one bit position contributes: `x_j` if it is set in `pos`, `!x_j` if in `neg` -/
def lits (b₁ b₂ : Bool) (j : Nat) : List Tok :=
  (if b₁ then [Tok.var j] else []) ++ (if b₂ then [Tok.not, Tok.var j] else [])

theorem mem_lits {b₁ b₂ : Bool} {j : Nat} {t : Tok} (h : t ∈ lits b₁ b₂ j) : t = .not ∨ t = .var j := by
  rw [lits, List.mem_append] at h
  rcases h with h | h <;> split at h <;> simp at h <;> simp [h]

/-- The early exit of the loop changes nothing: once both masks are zero no literal is selected. -/
theorem cubeLoopToks_eq (fuel : Nat) (p q : W32) (i : Nat) :
    cubeLoopToks fuel p q i = (List.range fuel).flatMap fun k => lits (p.getLsbD k) (q.getLsbD k) (i + k) := by
  induction fuel generalizing p q i with
  | zero => rfl
  | succ f ih =>
    rw [cubeLoopToks, List.range_succ_eq_map, List.flatMap_cons, List.flatMap_map, and_one_ne, and_one_ne, ih]
    simp only [BitVec.getLsbD_ushiftRight, Nat.succ_eq_add_one, Nat.add_assoc, Nat.add_comm 1]
    cases h : (p != 0 || q != 0)
    · have h' : p = 0 ∧ q = 0 := by simpa using h
      simp [h'.1, h'.2, lits]
    · rfl

theorem mem_cubeLoopToks {fuel : Nat} {p q : W32} {i : Nat} {t : Tok} (h : t ∈ cubeLoopToks fuel p q i) :
    t = .not ∨ ∃ k, k < fuel ∧ t = .var (i + k) := by
  rw [cubeLoopToks_eq, List.mem_flatMap] at h
  obtain ⟨k, hk, ht⟩ := h
  exact (mem_lits ht).imp_right fun e => ⟨k, List.mem_range.mp hk, e⟩

/-- C16, variable order: only a lower bound; the whole list, in increasing order, is `cubeLoopToks_eq` -/
theorem cube_vars_increasing (fuel : Nat) (p q : W32) (i : Nat) :
    ∀ t ∈ cubeLoopToks fuel p q i, ∀ j, t = Tok.var j → i ≤ j := by
  intro t ht j hj
  rcases mem_cubeLoopToks ht with h | ⟨k, _, h⟩ <;> rw [hj] at h
  · cases h
  · cases h; exact Nat.le_add_right i k

theorem evalAtoms_lits_append (a : Nat) (b₁ b₂ : Bool) (j : Nat) (r : List Tok) :
    evalAtoms a (lits b₁ b₂ j ++ r) false = (evalAtoms a r false).map
      (((if b₁ then [a.testBit j] else []) ++ if b₂ then [!a.testBit j] else []) ++ ·) := by
  cases b₁ <;> cases b₂ <;> simp [lits, evalAtoms, Function.comp_def]

/-- This and `evalProduct_lits`: the product of the literals of a cube (`l = range 32`, `P Q` the two masks),
    over any list of positions so that the induction runs on the list. -/
theorem evalAtoms_lits {α : Type} (a : Nat) (P Q : α → Bool) (ix : α → Nat) (l : List α) :
    evalAtoms a (l.flatMap fun k => lits (P k) (Q k) (ix k)) false =
      some (l.flatMap fun k => (if P k then [a.testBit (ix k)] else []) ++ if Q k then [!a.testBit (ix k)] else []) := by
  induction l with
  | nil => rfl
  | cons k l ih => rw [List.flatMap_cons, evalAtoms_lits_append, ih]; rfl

theorem evalProduct_of_atoms {a : Nat} {ts : List Tok} {vs : List Bool} (h : evalAtoms a ts false = some vs)
    (hne : vs ≠ []) : evalProduct a ts = some (vs.all id) := by
  rw [evalProduct, h]
  cases vs with
  | nil => exact absurd rfl hne
  | cons => rfl

theorem evalProduct_lits {α : Type} (a : Nat) (P Q : α → Bool) (ix : α → Nat) (l : List α)
    (hne : ∃ k ∈ l, P k = true ∨ Q k = true) :
    evalProduct a (l.flatMap fun k => lits (P k) (Q k) (ix k)) =
      some (l.all fun k => (!P k || a.testBit (ix k)) && (!Q k || !a.testBit (ix k))) := by
  rw [evalProduct_of_atoms (evalAtoms_lits a P Q ix l), List.all_flatMap]
  · congr 2
    funext k
    cases P k <;> cases Q k <;> simp
  · obtain ⟨k, hk, hpq⟩ := hne
    intro h
    have := List.flatMap_eq_nil_iff.mp h k hk
    rcases hpq with h | h <;> simp [h] at this

/-- `Cube.value` bit by bit, in the form in which a product of literals is evaluated -/
theorem value_eq_all (c : Cube) (a : Nat) : c.value a = (List.range 32).all fun k =>
    (!c.pos.getLsbD k || a.testBit k) && (!c.neg.getLsbD k || !a.testBit k) := by
  apply Bool.eq_iff_iff.mpr
  rw [value_iff, List.all_eq_true]
  apply forall_congr'
  intro k
  rw [List.mem_range]
  apply imp_congr_right
  intro hk
  rw [abit_eq a k hk]
  cases c.pos.getLsbD k <;> cases c.neg.getLsbD k <;> simp

theorem cube_product (c : Cube) (a : Nat) :
    Prints [.xor, .or] (evalProduct a) (Display.cube c) (c.value a) := by
  rw [Display.cube]
  split
  next h1 => exact value_of_isOne c h1 a ▸ one_product a
  next h1 =>
    split
    next h0 => exact value_of_isZero c h0 a ▸ zero_product a
    next =>
      have hl : ∀ t ∈ cubeLoopToks 32 c.pos c.neg 0, t = .not ∨ ∃ j, j < 32 ∧ t = .var j :=
        fun t ht => (mem_cubeLoopToks ht).imp_right fun ⟨k, hk, e⟩ => ⟨0 + k, (Nat.zero_add k).symm ▸ hk, e⟩
      refine ⟨_, cubeLoop_render 32 c.pos c.neg 0, WFT_of_lits _ hl, fun o ho hm => ?_, ?_⟩
      · rcases hl o hm with rfl | ⟨j, _, rfl⟩ <;> simp at ho
      rw [cubeLoopToks_eq, evalProduct_lits, value_eq_all]
      · simp only [Nat.zero_add]
      · -- not the constant one: some literal is present
        rw [Cube.isOne, Bool.and_eq_true, beq_iff_eq, beq_iff_eq, Classical.not_and_iff_not_or_not] at h1
        rcases h1 with h | h <;> obtain ⟨k, hk, hb⟩ := ne_zero_bit _ h
        · exact ⟨k, List.mem_range.mpr hk, .inl hb⟩
        · exact ⟨k, List.mem_range.mpr hk, .inr hb⟩

/-- the early exit again, as in `cubeLoopToks_eq` -/
theorem ecubeLoop_eq (fuel : Nat) (v : W32) (i : Nat) : Display.ecubeLoop fuel v i =
    ((List.range fuel).filter (v.getLsbD ·)).map fun k => Display.xLit (i + k) := by
  induction fuel generalizing v i with
  | zero => rfl
  | succ f ih =>
    rw [Display.ecubeLoop, List.range_succ_eq_map, List.filter_cons, List.filter_map, and_one_ne, ih]
    simp only [BitVec.getLsbD_ushiftRight, Function.comp_def, apply_ite (List.map _), List.map_cons, List.map_map,
      Nat.succ_eq_add_one, Nat.add_assoc, Nat.add_comm 1, Nat.add_zero]
    cases h : (v != 0)
    · have h' : v = 0 := by simpa using h
      simp [h']
    · cases v.getLsbD 0 <;> rfl

theorem xor_vars_term (a : Nat) (one : Bool) (l : List Nat) (hl : ∀ k ∈ l, k < 32) (hne : one = true ∨ l ≠ []) :
    Prints [.or] (evalTerm a) (Display.joinWith [32, 94, 32] ((if one then [[49]] else []) ++ l.map Display.xLit))
      (one != xorl l a.testBit) := by
  cases one with
  | false =>
    exact Bool.false_bne _ ▸ xor_join a Display.xLit a.testBit l (hne.resolve_left Bool.false_ne_true)
      fun k hk => var_product a k (hl k hk)
  | true =>
    cases l with
    | nil => exact (one_product a).term
    | cons k l =>
      -- the constant, ` ^ `, and the variables joined
      have h := ((one_product a).cons (.inl rfl) (by decide) (Prints.join (.inl rfl) (by decide) Display.xLit a.testBit
        (k :: l) (List.cons_ne_nil _ _) fun j hj => var_product a j (hl j hj))).map (xorl · id)
      rwa [xorl_cons, xorl_map] at h

theorem ecube_term (e : Ecube) (a : Nat) : Prints [.or] (evalTerm a) (Display.ecube e) (e.value a) := by
  have hz' : e.isZero = true ↔ e.vars = 0 ∧ e.xnor = false := by
    rw [Ecube.isZero, Bool.and_eq_true, bv_beq_iff, Bool.not_eq_true']
  -- text and value both over the list `(range 32).filter e.vars.getLsbD` of the variables present
  rw [Display.ecube, C13.value_bits, bne_comm, ← xorl_filter, ecubeLoop_eq]
  by_cases hz : e.isZero = true
  · rw [if_pos hz, (hz'.mp hz).1, (hz'.mp hz).2]
    -- at `vars = 0` the filter over `range 32` evaluates to `[]`: the value is `false` by computation
    exact (zero_product a).term
  · rw [if_neg hz]
    simp only [Nat.zero_add]
    apply xor_vars_term
    · exact fun k hk => List.mem_range.mp (List.mem_filter.mp hk).1
    · -- not the constant zero: the leading `1` or some variable is present
      cases hx : e.xnor
      · obtain ⟨k, hk, hb⟩ := ne_zero_bit e.vars fun hv => hz (hz'.mpr ⟨hv, hx⟩)
        exact .inr (List.ne_nil_of_mem (List.mem_filter.mpr ⟨List.mem_range.mpr hk, hb⟩))
      · exact .inl rfl

/-- the two-level forms print `0` for no piece and the joined pieces otherwise -/
theorem joined_text {α : Type} (a : Nat) (sep : List Nat) (pr : α → List Nat) (xs : List α) (v : List α → Bool)
    (h0 : v [] = false) (h : xs ≠ [] → Prints [] (evalFormula a) (Display.joinWith sep (xs.map pr)) (v xs)) :
    evalText (if xs.isEmpty then [48] else Display.joinWith sep (xs.map pr)) a = some (v xs) := by
  split
  next hz => rw [List.isEmpty_iff.mp hz, h0]; rfl
  next hz => exact (h fun e => hz (List.isEmpty_iff.mpr e)).text

/-- C16, the five `Display` forms: the printed text is a formula of the grammar of Spec/EvalText.lean and
    evaluates, on every assignment, to the object's `value` -/
theorem cube_text (c : Cube) (a : Nat) : evalText (Display.cube c) a = some (c.value a) :=
  (cube_product c a).term.formula.text

theorem ecube_text (e : Ecube) (a : Nat) : evalText (Display.ecube e) a = some (e.value a) :=
  (ecube_term e a).formula.text

theorem sop_text (s : Sop) (a : Nat) : evalText (Display.sop s) a = some (s.value a) := by
  rw [C14.sop_value]
  exact joined_text a _ Display.cube s.cubes (·.any (·.value a)) rfl fun hne =>
    or_join a _ _ _ hne fun c _ => (cube_product c a).term

theorem esop_text (s : Esop) (a : Nat) : evalText (Display.esop s) a = some (s.value a) :=
  joined_text a _ Display.cube s.cubes (xorl · (·.value a)) rfl fun hne =>
    (xor_join a _ _ _ hne fun c _ => cube_product c a).formula

theorem soes_text (s : Soes) (a : Nat) : evalText (Display.soes s) a = some (s.value a) := by
  rw [C13.soes_value]
  exact joined_text a _ Display.ecube s.cubes (·.any (·.value a)) rfl fun hne =>
    or_join a _ _ _ hne fun e _ => ecube_term e a

/-- C16, injectivity; for `OK` cubes only, as every contradictory cube prints `0` -/
theorem cube_display_injective (c d : Cube) (hc : OK c) (hd : OK d) (h : Display.cube c = Display.cube d) : c = d := by
  rw [eq_iff_sem c d hc hd]
  intro m
  have h1 := cube_text c m
  rw [h, cube_text d m] at h1
  exact (Option.some.inj h1).symm

/-- a two-digit index; a Soes -/
example : Display.cube ⟨1 <<< 10, 1 <<< 3⟩ = [33, 120, 51, 120, 49, 48] := by decide +kernel   -- "!x3x10"
example : evalText (Display.soes ⟨3, [⟨0b011, true⟩, ⟨0b100, false⟩]⟩) 0b010 = some false := by decide +kernel

end VoluteModel.Props.C16
