import VoluteModel.Model.Optim
import VoluteModel.Props.C14

/-!
# C18 (partial) - MIP two-level optimizers: candidates and the reference optimum

The candidate sets handed to the programmes are complete, and the driver's reference optimum
`Optim.brute` is the minimum of the documented cost over all families of candidate sublists realising
the functions.  That HiGHS returns an optimal solution is assumed: it is the hypotheses `hf`, `hopt`
of the entry-point theorems of `Props/C18Ilp.lean`, `Props/C18Forms.lean` (`Props/C18Solver.lean`:
the code asks for one).
-/

namespace VoluteModel.Props.C18
open VoluteModel.Optim VoluteModel.Cubes VoluteModel.Props.C12 VoluteModel.Props.C14

/-- `enumerate_valid_cubes`: the cubes over the variables of `f` that imply it -/
theorem mem_valid (l : Lut) (c : Cube) : c ∈ enumerateValidCubes l ↔ c ∈ Cube.all l.n ∧ c.impliesLut l = true :=
  List.mem_filter

/-- C18, candidates: every cube of an exact OR-cover of `f` is one -/
theorem cover_cubes_are_candidates (l : Lut) (s : Sop) (hn : s.n = l.n)
    (hcubes : ∀ c ∈ s.cubes, c ∈ Cube.all l.n)
    (hexact : ∀ m, m < 2 ^ l.n → s.value m = getBit l.t m) :
    ∀ c ∈ s.cubes, c ∈ enumerateValidCubes l := by
  intro c hc
  rw [mem_valid, impliesLut_iff]
  refine ⟨hcubes c hc, fun m hm hv => ?_⟩
  rw [← hexact m hm, sop_value]
  exact List.any_eq_true.mpr ⟨c, hc, hv⟩

/-- the multi-output list is the union of the single-output ones, each member once -/
theorem mem_valid_multi (fs : List Lut) :
    (enumerateValidCubesMulti fs).Nodup ∧
    ∀ c, c ∈ enumerateValidCubesMulti fs ↔ ∃ f ∈ fs, c ∈ enumerateValidCubes f := by
  obtain ⟨h1, h2⟩ := sort_dedup_lex Cube.le le_iff cube_keys_inj (fs.flatMap enumerateValidCubes)
  exact ⟨h1, fun c => (h2 c).trans List.mem_flatMap⟩

/-- no filter on the ESOP candidates (one that dropped the single positive literals: known_findings.json, C18) -/
theorem esop_candidates (n : Nat) (c : Cube) : c ∈ esopCandidates n ↔ c ∈ Cube.all n := Iff.rfl

/-- in particular the single positive literals -/
theorem literal_is_candidate (n v : Nat) (hv : v < n) (hn : n ≤ 32) : Cube.nthVar v ∈ esopCandidates n := by
  rw [esop_candidates, mem_all_iff]
  refine ⟨⟨2 ^ v, 0, Nat.pow_lt_pow_right (by omega) hv, Nat.two_pow_pos n, ?_⟩, ?_⟩
  · rw [Cube.nthVar, ← BitVec.twoPow_eq]
    exact congrArg (Cube.mk · 0) (BitVec.eq_of_toNat_eq (by rw [BitVec.toNat_twoPow, BitVec.toNat_ofNat]))
  · show ((1#32 <<< v) &&& 0#32 != 0) = false
    rw [BitVec.and_zero]; rfl

theorem mem_sublists {α : Type} (l s : List α) : s ∈ sublists l ↔ s.Sublist l := by
  induction l generalizing s with
  | nil => simp [sublists]
  | cons a l ih =>
    simp only [sublists, List.mem_flatMap, List.mem_cons, List.not_mem_nil, or_false]
    constructor
    · rintro ⟨t, ht, hs⟩
      rcases hs with rfl | rfl
      · exact ((ih s).mp ht).cons a
      · exact ((ih t).mp ht).cons_cons a
    · intro h
      cases h with
      | cons _ h' => exact ⟨s, (ih s).mpr h', Or.inl rfl⟩
      | cons_cons _ h' => exact ⟨_, (ih _).mpr h', Or.inr rfl⟩

/-- the local `realises` of `Optim.brute` -/
def realises (isXor : Bool) (f : Nat) (s : List (Nat × Nat × Nat)) : Bool :=
  if isXor then s.foldl (fun a it => a ^^^ it.2.1) 0 == f
  else s.all (fun it => it.2.1 &&& f == it.2.1) && s.foldl (fun a it => a ||| it.2.1) 0 == f

theorem mem_product {α : Type} (choices : List (List α)) (fam : List α) :
    fam ∈ choices.foldr (fun ch acc => ch.flatMap (fun s => acc.map (fun fam => s :: fam))) [[]] ↔
      fam.length = choices.length ∧ ∀ i (h1 : i < fam.length) (h2 : i < choices.length), fam[i] ∈ choices[i] := by
  induction choices generalizing fam with
  | nil =>
    rw [List.foldr_nil, List.mem_singleton]
    exact ⟨fun h => ⟨congrArg List.length h, fun i _ h2 => nomatch h2⟩, fun h => List.eq_nil_of_length_eq_zero h.1⟩
  | cons ch rest ih =>
    simp only [List.foldr_cons, List.mem_flatMap, List.mem_map]
    constructor
    · rintro ⟨s, hs, fam', hfam', rfl⟩
      obtain ⟨hl, hall⟩ := (ih fam').mp hfam'
      refine ⟨congrArg Nat.succ hl, fun i h1 h2 => ?_⟩
      cases i with
      | zero => exact hs
      | succ i => exact hall i (Nat.lt_of_succ_lt_succ h1) (Nat.lt_of_succ_lt_succ h2)
    · rintro ⟨hl, hall⟩
      cases fam with
      | nil => cases hl
      | cons s fam' =>
        exact ⟨s, hall 0 (Nat.zero_lt_succ _) (Nat.zero_lt_succ _), fam', (ih fam').mpr ⟨Nat.succ.inj hl, fun i h1 h2 =>
          hall (i + 1) (Nat.succ_lt_succ h1) (Nat.succ_lt_succ h2)⟩, rfl⟩

def families (isXor : Bool) (fs : List Nat) (items : List (Nat × Nat × Nat)) : List (List (List (Nat × Nat × Nat))) :=
  (fs.map (fun f => (sublists items).filter (realises isXor f))).foldr
    (fun ch acc => ch.flatMap (fun s => acc.map (fun fam => s :: fam))) [[]]

theorem brute_eq (isXor : Bool) (fs : List Nat) (items : List (Nat × Nat × Nat)) (join : Nat) :
    brute isXor fs items join = (families isXor fs items).foldl (fun best fam => min best (familyCost join fam)) INF := rfl

theorem mem_families (isXor : Bool) (fs : List Nat) (items : List (Nat × Nat × Nat)) (fam : List (List (Nat × Nat × Nat))) :
    fam ∈ families isXor fs items ↔ fam.length = fs.length ∧
      ∀ i (h1 : i < fam.length) (h2 : i < fs.length), (fam[i]).Sublist items ∧ realises isXor fs[i] fam[i] = true := by
  rw [families, mem_product]
  simp only [List.length_map, List.getElem_map, List.mem_filter, mem_sublists]

/-- `brute_spec` without saying which families `brute` ranges over; read that one -/
theorem brute_is_min (isXor : Bool) (fs : List Nat) (items : List (Nat × Nat × Nat)) (join : Nat) :
    ∃ fams : List (List (List (Nat × Nat × Nat))),
      brute isXor fs items join = (fams.map (familyCost join)).foldl (fun b x => min b x) INF ∧
      (∀ fam ∈ fams, brute isXor fs items join ≤ familyCost join fam) ∧
      (brute isXor fs items join = INF ∨ ∃ fam ∈ fams, brute isXor fs items join = familyCost join fam) := by
  rw [brute_eq]
  exact ⟨_, List.foldl_map.symm, (foldl_min_spec _ _ INF).2⟩

/-- C18, reference optimum: at most the cost of every family that picks, per output, a realising
    sub-list of the candidates; attained unless there is none (then the sentinel INF) -/
theorem brute_spec (isXor : Bool) (fs : List Nat) (items : List (Nat × Nat × Nat)) (join : Nat) :
    (∀ fam : List (List (Nat × Nat × Nat)), fam.length = fs.length →
      (∀ i (h1 : i < fam.length) (h2 : i < fs.length), (fam[i]).Sublist items ∧ realises isXor fs[i] fam[i] = true) →
      brute isXor fs items join ≤ familyCost join fam) ∧
    (brute isXor fs items join = INF ∨
      ∃ fam : List (List (Nat × Nat × Nat)), fam.length = fs.length ∧
        (∀ i (h1 : i < fam.length) (h2 : i < fs.length), (fam[i]).Sublist items ∧ realises isXor fs[i] fam[i] = true) ∧
        brute isXor fs items join = familyCost join fam) := by
  rw [brute_eq]
  obtain ⟨_, hle, hatt⟩ := foldl_min_spec (families isXor fs items) (familyCost join) INF
  refine ⟨fun fam hl h => hle fam ((mem_families isXor fs items fam).mpr ⟨hl, h⟩), hatt.imp id fun ⟨fam, hfam, he⟩ => ?_⟩
  obtain ⟨hl, hall⟩ := (mem_families isXor fs items fam).mp hfam
  exact ⟨fam, hl, hall, he⟩

/-- C18, documented cost: every distinct cube's gates once, one join gate per extra term of an output -/
theorem familyCost_def (join : Nat) (fam : List (List (Nat × Nat × Nat))) :
    familyCost join fam =
      ((fam.flatten.map (fun it => (it.1, it.2.2))).eraseDups).foldl (fun a it => a + it.2) 0 +
      fam.foldl (fun a s => a + join * (s.length - 1)) 0 := rfl

/-- an evaluation only: the driver's optimum for x0 as an ESOP (through `optXor`, not `brute`) is 0 -/
example : optimum "esop" 1 1 1 [⟨1, #[0x2#64]⟩] = some 0 := by decide +kernel

end VoluteModel.Props.C18
