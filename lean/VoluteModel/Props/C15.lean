import VoluteModel.Model.Sop
import VoluteModel.Lemmas.Tabulate
import VoluteModel.Lemmas.XorFold
import VoluteModel.Lemmas.Cubes

/-!
# C15 - Lut to Esop conversion (the sweep of `From<&Lut> for Esop`)

`^` and `!` are immediate on the XOR fold `Esop::value`; the substance is the conversion (`l.n ≤ 32`
throughout, the width of a cube's masks).  Round `k` emits the monomial `k` if position `k` of the working
table is set and then toggles every proper superset of `k`.  Invariant: position `m` holds `f m` XOR the
parity of the number of emitted proper subsets of `m`; so the emitted monomials are increasing and their
containment tests XOR to `f`.  Only one list does that, and the monomials with ANF coefficient 1 do by
Moebius inversion.
-/

namespace VoluteModel.Props.C15
open VoluteModel.Cubes

theorem esop_value (s : Esop) (m : Nat) : s.value m = xorl s.cubes (fun c => c.value m) := rfl

/-- `^` denotes XOR -/
theorem xor_spec (a b r : Esop) (h : Esop.xor a b = some r) (m : Nat) :
    r.value m = (a.value m != b.value m) ∧ r.n = a.n := by
  cases Option.some.inj (Option.ite_none_left_eq_some.mp h).2
  exact ⟨xorl_append a.cubes b.cubes _, rfl⟩

/-- `!` denotes the complement -/
theorem not_spec (s : Esop) (m : Nat) : (Esop.not s).value m = !s.value m := by
  refine (xorl_append s.cubes [Cube.one] _).trans ?_
  rw [xorl_cons, value_of_isOne Cube.one rfl m, ← esop_value]
  cases s.value m <;> rfl

/-- `is_zero` only for the constant zero -/
theorem isZero_sound (s : Esop) (h : s.isZero = true) (m : Nat) : s.value m = false := by
  rw [esop_value, List.isEmpty_iff.mp h]; rfl

/-- `is_one` only for the constant one -/
theorem isOne_sound (s : Esop) (h : s.isOne = true) (m : Nat) : s.value m = true := by
  unfold Esop.isOne at h
  rw [esop_value]
  match hc : s.cubes with
  | [] => rw [hc] at h; cases h
  | [c] =>
    rw [hc] at h
    rw [xorl_cons, value_of_isOne c h m]; rfl
  | _ :: _ :: _ => rw [hc] at h; cases h

/-- expressions nesting any number of `^` and `!` -/
inductive EExpr where
  | leaf (s : Esop)
  | xor (a b : EExpr)
  | not (a : EExpr)

def EExpr.eval : EExpr → Option Esop
  | .leaf s => some s
  | .xor a b => match a.eval, b.eval with
    | some x, some y => Esop.xor x y
    | _, _ => none
  | .not a => a.eval.map Esop.not

def EExpr.den : EExpr → Nat → Bool
  | .leaf s, m => s.value m
  | .xor a b, m => a.den m != b.den m
  | .not a, m => !a.den m

/-- the result denotes the XOR / complement expression of the leaves' values, repeated cubes or not -/
theorem expr_value (e : EExpr) (r : Esop) (h : e.eval = some r) : ∀ m, r.value m = e.den m := by
  induction e generalizing r with
  | leaf s => cases h; exact fun _ => rfl
  | xor a b iha ihb =>
    simp only [EExpr.eval] at h
    split at h
    · rename_i x y hx hy
      intro m
      rw [(xor_spec x y r h m).1, iha x hx m, ihb y hy m]; rfl
    · cases h
  | not a iha =>
    simp only [EExpr.eval, Option.map_eq_some_iff] at h
    obtain ⟨x, hx, rfl⟩ := h
    intro m
    rw [not_spec, iha x hx m]; rfl

/-- T is a subset of m (as sets of variables) -/
def subB (T m : Nat) : Bool := decide (T &&& m = T)
/-- proper subset -/
def psub (T m : Nat) : Bool := subB T m && (T != m)

/-- XOR of a predicate over a list of indices -/
def X (E : List Nat) (P : Nat → Bool) : Bool := E.foldl (fun r T => r != P T) false

theorem subB_iff_bits (T m : Nat) : subB T m = true ↔ ∀ k, T.testBit k = true → m.testBit k = true := by
  rw [subB, decide_eq_true_eq, Nat.eq_iff_testBit_eq]
  refine forall_congr' fun k => ?_
  rw [Nat.testBit_and]
  cases T.testBit k <;> simp

theorem subB_self (a : Nat) : subB a a = true := by simp [subB]

theorem subB_le (S a : Nat) (h : subB S a = true) : S ≤ a := by
  rw [← of_decide_eq_true h]
  exact Nat.and_le_right

theorem psub_eq (T m : Nat) : psub T m = (decide (T < m) && subB T m) := by
  unfold psub
  cases hs : subB T m
  · rw [Bool.false_and, Bool.and_false]
  · have := subB_le T m hs
    rw [Bool.true_and, Bool.and_true]
    exact Bool.eq_iff_iff.mpr (by
      rw [bne_iff_ne, decide_eq_true_eq]; exact ⟨Nat.lt_of_le_of_ne this, Nat.ne_of_lt⟩)

theorem psub_of_le (T m : Nat) (h : m ≤ T) : psub T m = false := by
  rw [psub_eq, decide_eq_false (Nat.not_lt.mpr h), Bool.false_and]

theorem subB_split (T m : Nat) : subB T m = (psub T m != (T == m)) := by
  unfold psub
  by_cases h : T = m
  · subst h; simp [subB]
  · rw [bne_iff_ne.mpr h, beq_false_of_ne h, Bool.and_true, Bool.bne_false]

theorem X_eq : X = xorl := rfl

/-- `!j & i == 0` on 64-bit words is "i is a subset of j" -/
theorem subset_cond (i j : Nat) (hi : i < 2 ^ 64) (hj : j < 2 ^ 64) :
    ((i &&& (2 ^ 64 - 1 - j % 2 ^ 64)) == 0) = subB i j := by
  apply Bool.eq_iff_iff.mpr
  rw [subB_iff_bits, beq_iff_eq, Nat.eq_iff_testBit_eq, Nat.mod_eq_of_lt hj]
  refine forall_congr' fun v => ?_
  rw [Nat.testBit_and, testBit_two_pow_sub_one_sub hj, Nat.zero_testBit]
  cases hiv : i.testBit v
  · simp
  · simp [lt_of_testBit hi hiv]

/-- the inner loop: toggle every proper superset position of i below nb -/
theorem bit_esopToggle (nb i : Nat) (t : Array W) (hr : ∀ j, j < nb → j / 64 < t.size) (h64 : nb ≤ 2 ^ 64) :
    (Esop.esopToggle nb i t).size = t.size ∧
    ∀ m, m < nb → bit (Esop.esopToggle nb i t) m = (bit t m != psub i m) := by
  -- `nb ≤ 2^64`: `!j` is taken on a 64-bit `usize`
  have hmem : ∀ j, j ∈ List.range' (i + 1) (nb - (i + 1)) ↔ (i < j ∧ j < nb) := fun j => mem_range'_sub
  -- by definition `esopToggle` folds `toggle` over this range, under the guard `!j & i == 0`
  obtain ⟨h1, h2⟩ := bit_foldl_update toggle bne (fun j => (i &&& (2 ^ 64 - 1 - j % 2 ^ 64)) == 0)
    Bool.bne_false toggle_size bit_toggle _ List.nodup_range' t (fun j hj => hr j ((hmem j).mp hj).2)
  refine ⟨h1, fun m hm => (h2 m).trans ?_⟩
  rw [psub_eq]
  by_cases him : i < m
  · have hi : i < 2 ^ 64 := Nat.lt_trans him (Nat.lt_of_lt_of_le hm h64)
    rw [decide_eq_true ((hmem m).mpr ⟨him, hm⟩), decide_eq_true him, subset_cond i m hi (Nat.lt_of_lt_of_le hm h64)]
  · rw [decide_eq_false (fun h => him ((hmem m).mp h).1), decide_eq_false him]; rfl

/-- the cube emitted for the variable set T -/
def cubeOf (T : Nat) : Cube := ⟨BitVec.ofNat 32 T, 0⟩

theorem cubeOf_value (T m : Nat) (hT : T < 2 ^ 32) : (cubeOf T).value m = subB T m := by
  -- `T < 2^32`: a cube's mask has 32 bits
  apply Bool.eq_iff_iff.mpr
  rw [cubeOf, value_pos_iff, subB_iff_bits]
  simp only [BitVec.getLsbD_ofNat, Bool.and_eq_true, decide_eq_true_eq]
  exact ⟨fun h v hv => h v ⟨lt_of_testBit hT hv, hv⟩, fun h v hv => h v hv.2⟩

/-- `table`: what the working table holds; at the rounds done the same value says whether the monomial was
    emitted (`record`) -/
structure Inv (n : Nat) (f : Nat → Bool) (k : Nat) (t : Array W) (E : List Nat) : Prop where
  size : t.size = tableSize n
  table : ∀ m, m < 2 ^ n → bit t m = (f m != X E (fun T => psub T m))
  bound : ∀ T ∈ E, T < k
  sorted : E.Pairwise (· < ·)
  record : ∀ m, m < k → decide (m ∈ E) = (f m != X E (fun T => psub T m))

theorem inv_step (n : Nat) (hn : n ≤ 64) (f : Nat → Bool) (k : Nat) (hk : k < 2 ^ n) (t : Array W) (E : List Nat)
    (h : Inv n f k t E) :
    (bit t k = false → Inv n f (k + 1) t E) ∧
    (bit t k = true → Inv n f (k + 1) (Esop.esopToggle (2 ^ n) k t) (E ++ [k])) := by
  have hkE : k ∉ E := fun hm => Nat.lt_irrefl k (h.bound k hm)
  constructor
  · intro hb
    refine ⟨h.size, h.table, fun T hT => Nat.lt_succ_of_lt (h.bound T hT), h.sorted, fun m hm => ?_⟩
    rcases Nat.lt_succ_iff_lt_or_eq.mp hm with hlt | rfl
    · exact h.record m hlt
    · rw [← h.table m hk, hb, decide_eq_false hkE]
  · intro hb
    obtain ⟨hsz, hbit⟩ := bit_esopToggle (2 ^ n) k t
      (fun j hj => by rw [h.size]; exact div64_lt_tableSize hj) (Nat.pow_le_pow_right (by decide) hn)
    have hX : ∀ m, X (E ++ [k]) (fun T => psub T m) = (X E (fun T => psub T m) != psub k m) :=
      fun m => by rw [X, List.foldl_append]; rfl
    refine ⟨hsz.trans h.size, fun m hm => ?_, ?_, ?_, fun m hm => ?_⟩
    · rw [hbit m hm, h.table m hm, hX m, Bool.bne_assoc]
    · intro T hT
      rcases List.mem_append.mp hT with hT | hT
      · exact Nat.lt_succ_of_lt (h.bound T hT)
      · rw [List.mem_singleton.mp hT]; exact Nat.lt_succ_self k
    · rw [List.pairwise_append]
      exact ⟨h.sorted, List.pairwise_singleton _ _, fun a ha b hb' => by
        rw [List.mem_singleton.mp hb']; exact h.bound a ha⟩
    · rw [hX m, psub_of_le k m (Nat.le_of_lt_succ hm), Bool.bne_false]
      rcases Nat.lt_succ_iff_lt_or_eq.mp hm with hlt | rfl
      · rw [← h.record m hlt]
        simp [Nat.ne_of_lt hlt]
      · rw [← h.table m hk, hb]; simp

/-- the outer loop after `k` rounds: working table and emitted cubes -/
def loopState (l : Lut) (k : Nat) : Array W × List Cube :=
  (List.range k).foldl (fun (st : Array W × List Cube) i =>
    if !(getBit st.1 i) then st
    else (Esop.esopToggle (Dyn.numBits l) i st.1, st.2 ++ [Cube.fromMask (BitVec.ofNat 32 i) 0])) (l.t, [])

theorem fromLut_eq_loopState (l : Lut) : Esop.fromLut l = ⟨l.n, (loopState l (Dyn.numBits l)).2⟩ := rfl

theorem loopState_succ (l : Lut) (k : Nat) : loopState l (k + 1) =
    (if !(getBit (loopState l k).1 k) then loopState l k
     else (Esop.esopToggle (Dyn.numBits l) k (loopState l k).1,
           (loopState l k).2 ++ [Cube.fromMask (BitVec.ofNat 32 k) 0])) := by
  unfold loopState
  rw [List.range_succ, List.foldl_append]
  rfl

/-- the invariant holds after every number of rounds -/
theorem loop_inv (l : Lut) (hl : l.t.size = tableSize l.n) (hn : l.n ≤ 32) (k : Nat) (hk : k ≤ 2 ^ l.n) :
    ∃ E, (loopState l k).2 = E.map cubeOf ∧ Inv l.n (fun m => bit l.t m) k (loopState l k).1 E := by
  induction k with
  | zero =>
    exact ⟨[], rfl, ⟨hl, fun m _ => (Bool.bne_false _).symm, fun _ h => (nomatch h), List.Pairwise.nil,
      fun m hm => (nomatch hm)⟩⟩
  | succ k ih =>
    obtain ⟨E, hE, hinv⟩ := ih (Nat.le_of_succ_le hk)
    obtain ⟨s1, s2⟩ := inv_step l.n (Nat.le_trans hn (by decide)) _ k hk _ E hinv
    rw [loopState_succ, getBit_eq_bit]
    cases hb : bit (loopState l k).1 k
    · exact ⟨E, hE, s1 hb⟩
    · refine ⟨E ++ [k], ?_, Dyn.numBits_eq l ▸ s2 hb⟩
      rw [List.map_append, ← hE, fromMask_pos]; rfl

/-- what the invariant gives at the end -/
theorem fromLut_monomials (l : Lut) (hl : l.t.size = tableSize l.n) (hn : l.n ≤ 32) :
    ∃ E : List Nat, Esop.fromLut l = ⟨l.n, E.map cubeOf⟩ ∧ E.Pairwise (· < ·) ∧ (∀ T ∈ E, T < 2 ^ l.n) ∧
      ∀ m, m < 2 ^ l.n → X E (fun T => subB T m) = l.eval m := by
  obtain ⟨E, hE, hinv⟩ := loop_inv l hl hn (2 ^ l.n) (Nat.le_refl _)
  rw [fromLut_eq_loopState, Dyn.numBits_eq, hE]
  refine ⟨E, rfl, hinv.sorted, hinv.bound, fun m hm => ?_⟩
  -- the subsets of m are the proper ones and, if emitted, m itself
  rw [X_eq, xorl_congr (fun T _ => subB_split T m), xorl_bne, xorl_eq_mem (hinv.sorted.imp Nat.ne_of_lt) m,
    hinv.record m hm, X_eq, Lut.eval]
  generalize xorl E _ = x
  cases x <;> cases bit l.t m <;> rfl

/-- only positive cubes, strictly increasing (each once), denoting the function -/
theorem fromLut_spec (l : Lut) (hl : l.t.size = tableSize l.n) (hn : l.n ≤ 32) :
    ∃ E : List Nat, (Esop.fromLut l).cubes = E.map cubeOf ∧ (Esop.fromLut l).n = l.n ∧
      E.Pairwise (· < ·) ∧ (∀ T ∈ E, T < 2 ^ l.n) ∧
      ∀ m, m < 2 ^ l.n → (Esop.fromLut l).value m = l.eval m := by
  obtain ⟨E, hE, hs, hb, hv⟩ := fromLut_monomials l hl hn
  have h32 : 2 ^ l.n ≤ 2 ^ 32 := Nat.pow_le_pow_right (by omega) hn
  rw [hE]
  exact ⟨E, rfl, rfl, hs, hb, fun m hm => by
    rw [← hv m hm, X_eq, esop_value, xorl_map]
    exact xorl_congr fun T hT => cubeOf_value T m (Nat.lt_of_lt_of_le (hb T hT) h32)⟩

/-- Lut -> Esop -> Lut gives the function back -/
theorem roundtrip (l : Lut) (hl : l.t.size = tableSize l.n) (hn : l.n ≤ 32) (m : Nat) (hm : m < 2 ^ l.n) :
    (Esop.fromLut l).toLut.eval m = l.eval m := by
  obtain ⟨E, _, _, _, _, h5⟩ := fromLut_spec l hl hn
  exact (tabulate_eval _ _ m hm).trans (h5 m hm)

theorem X_least (L : List Nat) (hn : L.Nodup) (a : Nat) (h : ∀ S ∈ L, a ≤ S) :
    X L (fun S => subB S a) = decide (a ∈ L) := by
  -- of the elements, all at least `a`, only `a` itself can be contained in `a`
  rw [X_eq, ← xorl_eq_mem hn a]
  refine xorl_congr fun S hS => ?_
  by_cases he : S = a
  · rw [he, subB_self, beq_self_eq_true]
  · rw [beq_false_of_ne he]
    cases hb : subB S a
    · rfl
    · exact absurd (Nat.le_antisymm (subB_le S a hb) (h S hS)) he

theorem head_separates (a : Nat) (L L' : List Nat) (hs : (a :: L).Pairwise (· < ·)) (hs' : L'.Pairwise (· < ·))
    (hgt : ∀ S ∈ L', a < S) : X (a :: L) (fun S => subB S a) ≠ X L' (fun S => subB S a) := by
  rw [X_least _ (hs.imp Nat.ne_of_lt) a
      (List.forall_mem_cons.mpr ⟨Nat.le_refl a, fun _ hS => Nat.le_of_lt (List.rel_of_pairwise_cons hs hS)⟩),
    X_least _ (hs'.imp Nat.ne_of_lt) a (fun S hS => Nat.le_of_lt (hgt S hS)),
    decide_eq_true List.mem_cons_self, decide_eq_false fun h => Nat.lt_irrefl a (hgt a h)]
  exact Bool.noConfusion

theorem lt_of_lt_head {a b : Nat} {L : List Nat} (hs : (b :: L).Pairwise (· < ·)) (h : a < b) : ∀ S ∈ b :: L, a < S :=
  List.forall_mem_cons.mpr ⟨h, fun _ hL => Nat.lt_trans h (List.rel_of_pairwise_cons hs hL)⟩

theorem unique_of_sorted (E E' : List Nat) (hs : E.Pairwise (· < ·)) (hs' : E'.Pairwise (· < ·))
    (h : ∀ m, m ∈ E ∨ m ∈ E' → X E (fun S => subB S m) = X E' (fun S => subB S m)) : E = E' := by
  induction E generalizing E' with
  | nil =>
    cases E' with
    | nil => rfl
    | cons b L' => exact absurd (h b (.inr List.mem_cons_self)).symm (head_separates b L' [] hs' hs fun _ h => nomatch h)
  | cons a L ih =>
    cases E' with
    | nil => exact absurd (h a (.inl List.mem_cons_self)) (head_separates a L [] hs hs' fun _ h => nomatch h)
    | cons b L' =>
      -- the heads agree, or the smaller one would separate the lists; then cancel them
      have hab : a = b := by
        rcases Nat.lt_trichotomy a b with hlt | heq | hgt
        · exact absurd (h a (.inl List.mem_cons_self)) (head_separates a L (b :: L') hs hs' (lt_of_lt_head hs' hlt))
        · exact heq
        · exact absurd (h b (.inr List.mem_cons_self)).symm (head_separates b L' (a :: L) hs' hs (lt_of_lt_head hs hgt))
      subst hab
      congr 1
      refine ih L' hs.of_cons hs'.of_cons fun m hm => ?_
      have := h m (hm.imp (List.mem_cons_of_mem _) (List.mem_cons_of_mem _))
      rw [X_eq, xorl_cons, xorl_cons] at this
      exact Bool.bne_right_inj.mp this

/-- a function below `2^n` has one strictly increasing list of positive cubes -/
theorem positive_esop_unique (n : Nat) (E E' : List Nat) (hs : E.Pairwise (· < ·)) (hs' : E'.Pairwise (· < ·))
    (hb : ∀ T ∈ E, T < 2 ^ n) (hb' : ∀ T ∈ E', T < 2 ^ n)
    (h : ∀ m, m < 2 ^ n → X E (fun S => subB S m) = X E' (fun S => subB S m)) : E = E' :=
  unique_of_sorted E E' hs hs' fun m hm => h m (hm.elim (hb m) (hb' m))

/-- equal functions give equal Esops -/
theorem fromLut_canonical (l1 l2 : Lut) (hn : l1.n = l2.n) (h1 : l1.t.size = tableSize l1.n)
    (h2 : l2.t.size = tableSize l2.n) (h32 : l1.n ≤ 32)
    (heq : ∀ m, m < 2 ^ l1.n → l1.eval m = l2.eval m) : Esop.fromLut l1 = Esop.fromLut l2 := by
  obtain ⟨E1, c1, s1, b1, v1⟩ := fromLut_monomials l1 h1 h32
  obtain ⟨E2, c2, s2, b2, v2⟩ := fromLut_monomials l2 h2 (hn ▸ h32)
  have key : E1 = E2 := positive_esop_unique l1.n E1 E2 s1 s2 b1 (hn ▸ b2) fun m hm => by
    rw [v1 m hm, heq m hm, v2 m (hn ▸ hm)]
  rw [c1, c2, key, hn]

/-- the subsets of m among the variables below i, as numbers, increasing -/
def subs : Nat → Nat → List Nat
  | 0, _ => [0]
  | i + 1, m => if m.testBit i then subs i m ++ (subs i m).map (· + 2 ^ i) else subs i m

theorem subB_add_top (i T m : Nat) (hT : T < 2 ^ i) :
    subB (T + 2 ^ i) m = (subB T m && m.testBit i) := by
  apply Bool.eq_iff_iff.mpr
  rw [Bool.and_eq_true, subB_iff_bits, subB_iff_bits, ← Nat.or_two_pow_eq_add_of_lt hT]
  simp only [Nat.testBit_or, Nat.testBit_two_pow, Bool.or_eq_true, decide_eq_true_eq]
  exact ⟨fun h => ⟨fun k hk => h k (Or.inl hk), h i (Or.inr rfl)⟩,
    fun ⟨h1, h2⟩ k hk => hk.elim (h1 k) (fun e => e ▸ h2)⟩

theorem subs_eq_filter (n m : Nat) : subs n m = (List.range (2 ^ n)).filter (subB · m) := by
  induction n with
  | zero => simp [subs, subB]
  | succ n ih =>
    -- below `2^(n+1)`: the numbers below `2^n`, without and with the new variable
    rw [Nat.pow_succ, Nat.mul_two, List.range_add, List.filter_append, ← ih, List.filter_map, subs,
      List.filter_congr (q := fun T => subB T m && m.testBit n) fun T hT => by
        rw [Function.comp_apply, Nat.add_comm, subB_add_top n T m (List.mem_range.mp hT)]]
    cases m.testBit n
    · simp
    · simp only [Bool.and_true, ← ih]
      exact congrArg _ (List.map_congr_left fun _ _ => Nat.add_comm ..)

theorem subs_lt (i m : Nat) : ∀ T ∈ subs i m, T < 2 ^ i := fun _ hT =>
  List.mem_range.mp (List.mem_filter.mp (subs_eq_filter i m ▸ hT)).1

/-- ANF coefficient of the monomial T: XOR of f over the subsets of T -/
def anf (n : Nat) (f : Nat → Bool) (T : Nat) : Bool := X (subs n T) f

theorem subs_congr (i m m' : Nat) (h : ∀ k, k < i → m.testBit k = m'.testBit k) : subs i m = subs i m' := by
  induction i with
  | zero => rfl
  | succ i ih =>
    simp only [subs]
    rw [h i (Nat.lt_succ_self i), ih (fun k hk => h k (Nat.lt_succ_of_lt hk))]

theorem subs_succ_lt (i T : Nat) (hT : T < 2 ^ i) : subs (i + 1) T = subs i T := by
  rw [subs, Nat.testBit_lt_two_pow hT]; rfl

theorem subs_succ_add (i T : Nat) (hT : T < 2 ^ i) :
    subs (i + 1) (T + 2 ^ i) = subs i T ++ (subs i T).map (· + 2 ^ i) := by
  have hi : (T + 2 ^ i).testBit i = true := by
    rw [Nat.add_comm, Nat.testBit_two_pow_add_eq, Nat.testBit_lt_two_pow hT]; rfl
  rw [subs, hi, if_pos rfl,
    subs_congr i (T + 2 ^ i) T fun k hk => by rw [Nat.add_comm, Nat.testBit_two_pow_add_gt hk]]

/-- Moebius inversion over GF(2): the coefficients of the subsets of m XOR to f m -/
theorem mobius (i : Nat) (f : Nat → Bool) (m : Nat) (hm : m < 2 ^ i) :
    X (subs i m) (fun T => X (subs i T) f) = f m := by
  rw [X_eq]
  induction i generalizing f m with
  | zero =>
    rw [Nat.lt_one_iff.mp hm]
    show (false != (false != f 0)) = f 0
    rw [Bool.false_bne, Bool.false_bne]
  | succ i ih =>
    -- the coefficients of the subsets without the new variable are those for one variable less
    have low : ∀ m, xorl (subs i m) (fun T => xorl (subs (i + 1) T) f) = xorl (subs i m) (fun T => xorl (subs i T) f) :=
      fun m => xorl_congr fun T hT => by rw [subs_succ_lt i T (subs_lt i m T hT)]
    rw [Nat.pow_succ, Nat.mul_two] at hm
    rcases Nat.lt_or_ge m (2 ^ i) with hlt | hge
    · rw [subs_succ_lt i m hlt, low, ih f m hlt]
    · obtain ⟨m', hm', rfl⟩ : ∃ m', m' < 2 ^ i ∧ m = m' + 2 ^ i :=
        ⟨m - 2 ^ i, Nat.sub_lt_left_of_lt_add hge hm, (Nat.sub_add_cancel hge).symm⟩
      -- with the new variable, a coefficient is the XOR of those of the two halves of f
      have high : xorl (subs i m') (fun T => xorl (subs (i + 1) (T + 2 ^ i)) f) =
          xorl (subs i m') (fun T => xorl (subs i T) f != xorl (subs i T) (fun k => f (k + 2 ^ i))) :=
        xorl_congr fun T hT => by rw [subs_succ_add i T (subs_lt i m' T hT), xorl_append, xorl_map]
      rw [subs_succ_add i m' hm', xorl_append, xorl_map, low, high, xorl_bne, ih (fun k => f (k + 2 ^ i)) m' hm',
        Bool.bne_self_left]

/-- the monomials of the algebraic normal form of f, in increasing order -/
def anfList (n : Nat) (f : Nat → Bool) : List Nat := (List.range (2 ^ n)).filter (anf n f)

theorem anfList_sorted (n : Nat) (f : Nat → Bool) : (anfList n f).Pairwise (· < ·) :=
  (List.pairwise_lt_range).filter _

theorem anfList_lt (n : Nat) (f : Nat → Bool) : ∀ T ∈ anfList n f, T < 2 ^ n :=
  fun _ hT => List.mem_range.mp (List.mem_filter.mp hT).1

theorem anfList_value (n : Nat) (f : Nat → Bool) (m : Nat) (hm : m < 2 ^ n) :
    X (anfList n f) (fun S => subB S m) = f m := by
  -- filter the subsets of m out of the range instead of the monomials
  unfold anfList
  rw [X_eq, xorl_filter, xorl_congr (fun T _ => Bool.and_comm (anf n f T) (subB T m)),
    ← xorl_filter _ (subB · m) (anf n f), ← subs_eq_filter]
  exact mobius n f m hm

/-- exactness: the emitted cubes are those of the monomials with ANF coefficient 1, each once, increasing -/
theorem fromLut_anf (l : Lut) (hl : l.t.size = tableSize l.n) (h32 : l.n ≤ 32) :
    (Esop.fromLut l).cubes = (anfList l.n (fun m => l.eval m)).map cubeOf ∧ (Esop.fromLut l).n = l.n := by
  obtain ⟨E, c1, s1, b1, v1⟩ := fromLut_monomials l hl h32
  have key : E = anfList l.n (fun m => l.eval m) :=
    positive_esop_unique l.n E _ s1 (anfList_sorted _ _) b1 (anfList_lt _ _) fun m hm => by
      rw [anfList_value l.n _ m hm, v1 m hm]
  rw [c1, key]
  exact ⟨rfl, rfl⟩

/-- non-vacuity: the Reed-Muller form of majority-3 is x0x1 ^ x0x2 ^ x1x2 -/
example : Esop.fromLut ⟨3, #[0xe8#64]⟩ = ⟨3, [cubeOf 3, cubeOf 5, cubeOf 6]⟩ := by decide +kernel

/-- non-vacuity: `!((x0 ^ x0) ^ (1 ^ x0 x1))`, a repeated cube among the leaves, evaluates -/
example : ((EExpr.not (.xor (.leaf ⟨2, [⟨1, 0⟩, ⟨1, 0⟩]⟩) (.leaf ⟨2, [⟨0, 0⟩, ⟨3, 0⟩]⟩))).eval).isSome = true := by
  decide +kernel

end VoluteModel.Props.C15
