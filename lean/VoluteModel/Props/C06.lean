import VoluteModel.Model.Api
import VoluteModel.Lemmas.InWord
import VoluteModel.Lemmas.XorFold
import VoluteModel.Props.C03

/-!
# C06 - top decomposition and unateness are sound and complete

Every predicate of decomposition.rs is "for all assignments, g (c0 m) (c1 m)" for the Boolean function
`g` that its closure computes bit by bit (`Lifts`).
-/

namespace VoluteModel.Props.C06
open C03

def allB (n : Nat) (p : Nat → Bool) : Bool := (List.range (2 ^ n)).all p

theorem allB_iff (n : Nat) (p : Nat → Bool) : allB n p = true ↔ ∀ m, m < 2 ^ n → p m = true := by
  simp [allB]

theorem allB_imp_iff (n : Nat) (a b : Nat → Bool) :
    allB n (fun m => !a m || b m) = true ↔ ∀ m, m < 2 ^ n → a m = true → b m = true := by
  rw [allB_iff]
  exact forall_congr' fun m => forall_congr' fun _ => by cases a m <;> simp

/-- the cofactors for variable `v`, by definition (f on `m` with `x_v` cleared / set); they are what
    `cofactors(v)` returns: `C03.cof0_bit`, `C03.cof1_bit` -/
def c0 (t : Array W) (v m : Nat) : Bool := bit t (clearBit m v)
def c1 (t : Array W) (v m : Nat) : Bool := bit t (setBitN m v)

theorem c0_eq (t : Array W) (v m : Nat) : c0 t v m = bit t (condFlip id v m) := rfl

theorem c1_eq (t : Array W) (v m : Nat) : c1 t v m = bit t (condFlip not v m) := by
  rw [c1, setBitN_eq]

def Lifts (op : W → W → W) (g : Bool → Bool → Bool) : Prop :=
  ∀ (x y : W) (b : Nat), b < 64 → (op x y).getLsbD b = g (x.getLsbD b) (y.getLsbD b)

/-- the helper's test `!(op c0 c1) & mask == 0` on one word -/
theorem wordOK (x : W) (n : Nat) :
    ((~~~ x &&& numVarsMask n == 0#64) = true) ↔ ∀ b, b < 64 → b < 2 ^ n → x.getLsbD b = true := by
  rw [bv_beq_iff, BitVec.eq_of_getLsbD_eq_iff]
  refine forall_congr' fun b => forall_congr' fun hb => ?_
  rw [and_numVarsMask_bit n _ hb, not_bit _ hb, BitVec.getLsbD_zero]
  cases x.getLsbD b <;> simp

theorem words_all_iff (n : Nat) (Y : Nat → W) (p : Nat → Bool) (hY : ∀ m, (Y (m / 64)).getLsbD (m % 64) = p m) :
    (∀ w, w < tableSize n → (~~~ Y w &&& numVarsMask n == 0#64) = true) ↔ allB n p = true := by
  simp only [wordOK, allB_iff, ← hY]
  constructor
  · intro h m hm
    obtain ⟨h1, h2⟩ := (lt_two_pow_iff_word_pos n m).mp hm
    exact h _ h1 _ (mod64_lt m) h2
  · intro h w hw b hb hlt
    have e := word_index w hb
    have := h (64 * w + b) ((lt_two_pow_iff_word_pos n _).mpr (by rw [e.1, e.2]; exact ⟨hw, hlt⟩))
    rwa [e.1, e.2] at this

/-- the leaders of the word pairs `{w, w ^^^ 2^j}` (bit `j` clear) stand for all words -/
theorem forall_leader_iff {j n' : Nat} (hj : j < n') (q : Nat → Nat → Prop) :
    (∀ i, i < 2 ^ n' → i.testBit j = false → q i (i + 2 ^ j)) ↔
      ∀ w, w < 2 ^ n' → q (condFlip id j w) (condFlip not j w) := by
  -- `condFlip id j w` leads the pair of `w`, `condFlip not j w` is its partner
  constructor
  · intro h w hw
    rw [condFlip_not_eq_add]
    exact h _ (condFlip_lt id hj hw) (condFlip_id_testBit_self j w)
  · intro h i hi hb
    have := h i hi
    rwa [condFlip_not_eq_add, condFlip_id, if_neg (by rw [hb]; exact Bool.false_ne_true)] at this

/-- C06, `input_property_helper` (decomposition.rs:10-38), in-word and cross-word variables alike -/
theorem helper_spec (n : Nat) (t : Array W) (hs : t.size = tableSize n) (v : Nat) (hv : v < n)
    (op : W → W → W) (g : Bool → Bool → Bool) (hop : Lifts op g) :
    inputPropertyHelper n t v op = some (allB n (fun m => g (c0 t v m) (c1 t v m))) := by
  unfold inputPropertyHelper
  rw [if_neg (fun h => h hs), if_neg (fun h => h hv)]
  dsimp only
  -- In both regimes the fold tests a word `Y w = op .. ..` for every word index `w`, the operands holding
  -- the two cofactors on the assignments of word `w` (`hY`): the in-word cofactors of `t[w]` below
  -- variable 6, the words `t[w with bit j cleared / set]` for variable `6 + j`.
  by_cases h5 : v ≤ 5
  · rw [if_pos h5]
    have hv6 : v < 6 := Nat.lt_succ_of_le h5
    have hY : ∀ m, (op (helperC0 v (t[m / 64]?.getD 0)) (helperC1 v (t[m / 64]?.getD 0))).getLsbD (m % 64) =
        g (c0 t v m) (c1 t v m) := fun m => by
      rw [hop _ _ _ (mod64_lt m), helperC0_bit v hv6 _ _ (mod64_lt m), helperC1_bit v hv6 _ _ (mod64_lt m),
        c0_eq, c1_eq, bit_of_split (condFlip_split_lo id hv6 m), bit_of_split (condFlip_split_lo not hv6 m)]
    refine congrArg some (Bool.eq_iff_iff.mpr ?_)
    rw [← words_all_iff n (fun w => op (helperC0 v (t[w]?.getD 0)) (helperC1 v (t[w]?.getD 0))) _ hY,
      ← Array.foldl_toList, foldl_and, Bool.true_and, List.all_eq_true, ← hs]
    simp only [Array.mem_toList_iff, Array.forall_mem_iff_forall_getElem]
    exact forall_congr' fun w => forall_congr' fun hw => by rw [Array.getElem?_eq_getElem hw, Option.getD_some]
  · rw [if_neg h5]
    obtain ⟨j, rfl⟩ := Nat.exists_eq_add_of_le (Nat.lt_of_not_le h5)
    have hY : ∀ m, (op (t[condFlip id j (m / 64)]?.getD 0) (t[condFlip not j (m / 64)]?.getD 0)).getLsbD (m % 64) =
        g (c0 t (6 + j) m) (c1 t (6 + j) m) := fun m => by
      rw [hop _ _ _ (mod64_lt m), c0_eq, c1_eq, bit_of_split (condFlip_split_hi id j m),
        bit_of_split (condFlip_split_hi not j m)]
    refine congrArg some (Bool.eq_iff_iff.mpr ?_)
    rw [← words_all_iff n (fun w => op (t[condFlip id j w]?.getD 0) (t[condFlip not j w]?.getD 0)) _ hY,
      foldl_cond_and, Bool.true_and, List.all_eq_true, ← hs, size_eq_two_pow hs]
    -- the loop visits the pair leaders `i` (bit `j` clear) and reads `t[i]`, `t[i + 2^j]`
    simp only [List.mem_range, Nat.add_sub_cancel_left, Nat.one_shiftLeft, and_two_pow_eq_zero,
      Bool.not_not, Bool.or_eq_true, Classical.or_iff_not_imp_left, Bool.not_eq_true]
    exact forall_leader_iff (Nat.lt_sub_iff_add_lt'.mpr hv)
      (fun a b => (~~~ (op (t[a]?.getD 0) (t[b]?.getD 0)) &&& numVarsMask n == 0#64) = true)

/-- the two always-on assertions (decomposition.rs:14-15) -/
theorem helper_none (n : Nat) (t : Array W) (v : Nat) (op : W → W → W)
    (h : t.size ≠ tableSize n ∨ ¬ v < n) : inputPropertyHelper n t v op = none := by
  unfold inputPropertyHelper
  rcases h with h | h
  · rw [if_pos h]
  · rw [if_pos h, ite_self]

section predicates
variable (n : Nat) (t : Array W) (hs : t.size = tableSize n) (v : Nat) (hv : v < n)
include hs hv

/-- C06, the eight predicates (decomposition.rs:40-70), each as its condition on the cofactors -/
theorem independent_spec : inputIndependent n t v = some (allB n fun m => c0 t v m == c1 t v m) :=
  helper_spec n t hs v hv (fun x0 x1 => ~~~ (x0 ^^^ x1)) (fun a b => a == b) (by
    intro x y b hb
    simp only [BitVec.getLsbD_not, BitVec.getLsbD_xor, hb]
    cases x.getLsbD b <;> cases y.getLsbD b <;> rfl)

theorem and_spec : inputAnd n t v = some (allB n fun m => !c0 t v m) :=
  helper_spec n t hs v hv (fun x0 _ => ~~~ x0) (fun a _ => !a) (by
    intro x y b hb; simp [hb])

theorem or_spec : inputOr n t v = some (allB n fun m => c1 t v m) :=
  helper_spec n t hs v hv (fun _ x1 => x1) (fun _ b => b) (by intro x y b hb; rfl)

theorem nand_spec : inputNand n t v = some (allB n fun m => c0 t v m) :=
  helper_spec n t hs v hv (fun x0 _ => x0) (fun a _ => a) (by intro x y b hb; rfl)

theorem nor_spec : inputNor n t v = some (allB n fun m => !c1 t v m) :=
  helper_spec n t hs v hv (fun _ x1 => ~~~ x1) (fun _ b => !b) (by
    intro x y b hb; simp [hb])

theorem xor_spec : inputXor n t v = some (allB n fun m => c0 t v m != c1 t v m) :=
  helper_spec n t hs v hv (fun x0 x1 => x0 ^^^ x1) (fun a b => a != b) (by
    intro x y b hb; simp)

theorem posUnate_spec : inputPosUnate n t v = some (allB n fun m => !c0 t v m || c1 t v m) :=
  helper_spec n t hs v hv (fun x0 x1 => ~~~ x0 ||| x1) (fun a b => !a || b) (by
    intro x y b hb; simp [hb])

theorem negUnate_spec : inputNegUnate n t v = some (allB n fun m => !c1 t v m || c0 t v m) :=
  helper_spec n t hs v hv (fun x0 x1 => ~~~ x1 ||| x0) (fun a b => !b || a) (by
    intro x y b hb; simp [hb])

/-- C06, `top_decomposition`: the property's case list, in its priority order -/
theorem top_spec : topDecomposition n t v = some (
    let eq := allB n fun m => c0 t v m == c1 t v m
    let c0zero := allB n fun m => !c0 t v m
    let c1one := allB n fun m => c1 t v m
    let c0one := allB n fun m => c0 t v m
    let c1zero := allB n fun m => !c1 t v m
    let opp := allB n fun m => c0 t v m != c1 t v m
    if eq then DecompositionType.Independent
    else if c0zero && c1one then .Identity
    else if c0one && c1zero then .Negation
    else if c0zero then .And
    else if c1one then .Or
    else if c0one then .Le
    else if c1zero then .Lt
    else if opp then .Xor
    else .None) := by
  unfold topDecomposition
  rw [independent_spec n t hs v hv, and_spec n t hs v hv, or_spec n t hs v hv, nand_spec n t hs v hv,
    nor_spec n t hs v hv, xor_spec n t hs v hv]
  rfl

end predicates

theorem decompChain_eq_independent : ∀ indep and or nand nor xor : Bool,
    decompChain indep and or nand nor xor = .Independent ↔ indep = true := by
  decide

/-- C06, API, both types (one model definition).  Only `Independent`, the first link of the chain, is
    characterised here; the case list is `top_spec`. -/
theorem api_top (l : Lut) (hl : l.WF) (v : Nat) (hv : v < l.n) :
    ∃ d, Dyn.topDecomposition l v = some d ∧
      (d = .Independent ↔ ∀ m, m < 2 ^ l.n → c0 l.t v m = c1 l.t v m) := by
  refine ⟨_, top_spec l.n l.t hl.1 v hv, ?_⟩
  show decompChain _ _ _ _ _ _ = .Independent ↔ _
  rw [decompChain_eq_independent, allB_iff]
  simp

/-- C06, unateness at the API -/
theorem api_unate (l : Lut) (hl : l.WF) (v : Nat) (hv : v < l.n) :
    (Dyn.isPosUnate l v = some true ↔ ∀ m, m < 2 ^ l.n → (c0 l.t v m = true → c1 l.t v m = true)) ∧
    (Dyn.isNegUnate l v = some true ↔ ∀ m, m < 2 ^ l.n → (c1 l.t v m = true → c0 l.t v m = true)) :=
  ⟨by rw [Dyn.isPosUnate, posUnate_spec l.n l.t hl.1 v hv, Option.some.injEq, allB_imp_iff],
   by rw [Dyn.isNegUnate, negUnate_spec l.n l.t hl.1 v hv, Option.some.injEq, allB_imp_iff]⟩

/-- non-vacuity: parity of three variables is Xor-decomposable in x0 -/
example : Dyn.topDecomposition ⟨3, #[0x96#64]⟩ 0 = some .Xor := by decide +kernel
/-- a cross-word variable -/
example : Dyn.topDecomposition ⟨7, #[0x0#64, 0xffffffffffffffff#64]⟩ 6 = some .Identity := by decide +kernel

end VoluteModel.Props.C06
