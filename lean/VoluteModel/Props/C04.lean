import VoluteModel.Props.C05
import VoluteModel.Lemmas.Cover
import VoluteModel.Lemmas.Group

/-!
# C04 - P/N/NPN canonization returns the orbit minimum

Scope and what is evaluated as in C05.  The walk returns the least table it visits and visits the image
of f (`CertRel`) under every element of the group (`Lemmas/Cover.lean`; its counting argument is the one
place where a Mathlib module is used); the least table of an orbit is unique, so the representatives
classify the orbits.  The library's order is the numeric order of the table value `toNatLE` (C08).
-/

namespace VoluteModel.Props.C04
open C05

/-- the representative is one of the visited tables and <= each of them, and each is the image of f under the
    certificate reached with it -/
theorem orbit_min_partial (n : Nat) (f c : Array W) (perm : Array Nat) (mask : Nat) (ms : List (List Elem))
    (hs : f.size = tableSize n) (r : Result n f c perm mask ms) :
    (∃ k, k ≤ ms.length ∧ c = stateAt (applyElems n) f ms k) ∧
    ∀ j, j ≤ ms.length →
      CertRel n f (stateAt (applyElems n) f ms j) (certAt n ms j).1 (certAt n ms j).2 ∧
      toNatLE c.toList ≤ toNatLE (stateAt (applyElems n) f ms j).toList := by
  obtain ⟨k, rk⟩ := r
  refine ⟨⟨k, rk.k_le, rk.table⟩, fun j hj => ⟨rk.rels j hj, ?_⟩⟩
  have hsz : (stateAt (applyElems n) f ms j).size = c.size := by
    rw [rk.table, stateAt_flatten, stateAt_flatten, applyElems_size, applyElems_size]
  exact (ltT_false_iff _ _ hsz).mp (rk.minimal j hj)

/-- the input is visited (index 0) -/
theorem le_input (n : Nat) (f c : Array W) (perm : Array Nat) (mask : Nat) (ms : List (List Elem))
    (hs : f.size = tableSize n) (r : Result n f c perm mask ms) : toNatLE c.toList ≤ toNatLE f.toList :=
  ((orbit_min_partial n f c perm mask ms hs r).2 0 (Nat.zero_le _)).2

/-- <= the image of `f` under every certificate the walk visits: it is the table reached there (`cert_unique`) -/
theorem orbit_min (n : Nat) (f c : Array W) (perm : Array Nat) (mask : Nat) (ms : List (List Elem))
    (hf : WF n f) (hsafe : Safe n (Array.range n, 0) ms.flatten) (r : Result n f c perm mask ms) :
    WF n c ∧ IsPerm n perm ∧ mask < 2 ^ (n + 1) ∧ CertRel n f c perm mask ∧
      ∀ σ μ t, (∃ j, j ≤ ms.length ∧ certAt n ms j = (σ, μ)) → WF n t → CertRel n f t σ μ →
        toNatLE c.toList ≤ toNatLE t.toList := by
  obtain ⟨w1, w2⟩ := result_wellformed n f c perm mask ms hsafe r
  obtain ⟨⟨k, _, hk⟩, hmin⟩ := orbit_min_partial n f c perm mask ms hf.1 r
  refine ⟨hk ▸ (tracks_at n f hf ms hsafe k).wf, w1, w2, r.rel, fun σ μ t ⟨j, hj, hc⟩ ht hrel => ?_⟩
  have tj := tracks_at n f hf ms hsafe j
  rw [hc] at tj
  rw [cert_unique n f t _ σ μ tj.perm ht tj.wf hrel tj.rel]
  exact (hmin j hj).2

/-- **C04, P** (every n).  The three `*_orbit_min_all`: the representative is the image of f under the returned
    certificate and <= the image under every element of the group. -/
theorem p_orbit_min_all (n : Nat) (f : Array W) (hf : WF n f) :
    ∃ c perm, pCanonization n f = some (c, perm) ∧ WF n c ∧ IsPerm n perm ∧ CertRel n f c perm 0 ∧
      ∀ σ t, IsPerm n σ → WF n t → CertRel n f t σ 0 → toNatLE c.toList ≤ toNatLE t.toList := by
  by_cases h2 : 2 ≤ n
  · obtain ⟨sw, hsw, hs, hcov⟩ := swapsFor_facts n h2
    obtain ⟨c, perm, h1, r⟩ := p_result n f hf h2 sw hsw hs
    obtain ⟨wc, wp, _, rel, hmin⟩ := orbit_min n f c perm 0 _ hf (macroP_closedWalk n sw hs).safe r
    refine ⟨c, perm, h1, wc, wp, rel, fun σ t hσ => hmin σ 0 t ?_⟩
    obtain ⟨j, hj, hc⟩ := p_cover n sw hs hcov.nodup hcov.length σ hσ
    exact ⟨j, macroP_length sw ▸ Nat.le_of_lt hj, hc⟩
  · have h1 : n ≤ 1 := Nat.le_of_not_lt h2
    refine ⟨f, Array.range n, p_small n h1 f, hf, isPerm_range n, cert_init n f, ?_⟩
    intro σ t hσ ht hrel
    rw [isPerm_small n h1 σ hσ] at hrel
    rw [eq_of_cert_id n f t hf ht hrel]

/-- **C04, N** (n <= 64): every mask of inputs and output -/
theorem n_orbit_min_all (n : Nat) (h64 : n ≤ 64) (f : Array W) (hf : WF n f) :
    ∃ c mask, nCanonization n f = some (c, mask) ∧ WF n c ∧ mask < 2 ^ (n + 1) ∧
      CertRel n f c (Array.range n) mask ∧
      ∀ μ t, μ < 2 ^ (n + 1) → WF n t → CertRel n f t (Array.range n) μ → toNatLE c.toList ≤ toNatLE t.toList := by
  by_cases h1 : 1 ≤ n
  · obtain ⟨fl, hfl', hfl, hcov⟩ := flipsFor_facts n h1 h64
    obtain ⟨c, mask, h, r⟩ := n_result n f hf h1 fl hfl' hfl
    obtain ⟨wc, _, wm, rel, hmin⟩ := orbit_min n f c _ mask _ hf (macroN_closedWalk n fl hfl).safe r
    refine ⟨c, mask, h, wc, wm, rel, fun μ t hμ => hmin _ μ t ?_⟩
    obtain ⟨k, _, hk, rfl⟩ := n_cover n fl hfl hcov.nodup hcov.length μ hμ
    rw [← macroN_length] at hk
    exact ⟨k, hk, certAt_macroN n fl k hk⟩
  · -- no flip: the walk over the two output complements
    obtain rfl : n = 0 := Nat.eq_zero_of_not_pos h1
    obtain ⟨c, mask, h, r⟩ := n_zero_result f hf
    obtain ⟨wc, _, wm, rel, hmin⟩ := orbit_min 0 f c _ mask _ hf negs_closed.safe r
    refine ⟨c, mask, h, wc, wm, rel, fun μ t hμ => hmin _ μ t ?_⟩
    match μ, hμ with
    | 0, _ => exact ⟨0, by decide, rfl⟩
    | 1, _ => exact ⟨1, by decide, rfl⟩

/-- **C04, NPN** (n <= 64; for n <= 1 it is the N case) -/
theorem npn_orbit_min_all (n : Nat) (h64 : n ≤ 64) (f : Array W) (hf : WF n f) :
    ∃ c perm mask, npnCanonization n f = some (c, perm, mask) ∧ WF n c ∧ IsPerm n perm ∧ mask < 2 ^ (n + 1) ∧
      CertRel n f c perm mask ∧
      ∀ σ μ t, IsPerm n σ → μ < 2 ^ (n + 1) → WF n t → CertRel n f t σ μ →
        toNatLE c.toList ≤ toNatLE t.toList := by
  by_cases h2 : 2 ≤ n
  · obtain ⟨sw, hsw, hs, hcs⟩ := swapsFor_facts n h2
    obtain ⟨fl, hfl', hfl, hcf⟩ := flipsFor_facts n (Nat.le_of_succ_le h2) h64
    obtain ⟨c, perm, mask, h, r⟩ := npn_result n f hf h2 sw fl hsw hfl' hs hfl
    obtain ⟨wc, wp, wm, rel, hmin⟩ := orbit_min n f c perm mask _ hf (macroNPN_closedWalk n sw fl hs hfl).safe r
    exact ⟨c, perm, mask, h, wc, wp, wm, rel, fun σ μ t hσ hμ =>
      hmin σ μ t (npn_cover n sw fl hs hfl hcs.nodup hcs.length hcf.nodup hcf.length σ hσ μ hμ)⟩
  · have h1 : n ≤ 1 := Nat.le_of_not_lt h2
    obtain ⟨c, mask, h, wc, w2, rel, hmin⟩ := n_orbit_min_all n h64 f hf
    refine ⟨c, Array.range n, mask, by rw [npn_small n h1 f, h]; rfl, wc, isPerm_range n, w2, rel, ?_⟩
    intro σ μ t hσ hμ ht hrel
    rw [isPerm_small n h1 σ hσ] at hrel
    exact hmin μ t hμ ht hrel

/-- **C04**, no panic (`none`) for 0..64 variables; P for every n by `p_orbit_min_all` -/
theorem no_panic (n : Nat) (h64 : n ≤ 64) (f : Array W) (hf : WF n f) :
    (pCanonization n f).isSome = true ∧ (nCanonization n f).isSome = true ∧ (npnCanonization n f).isSome = true := by
  obtain ⟨_, _, hp, _⟩ := p_orbit_min_all n f hf
  obtain ⟨_, _, hn, _⟩ := n_orbit_min_all n h64 f hf
  obtain ⟨_, _, _, hnpn, _⟩ := npn_orbit_min_all n h64 f hf
  rw [hp, hn, hnpn]
  exact ⟨rfl, rfl, rfl⟩

/-- for a group `G` and a `canon` that returns the minimum over `G`: `canon` picks the least table of each class -/
theorem class_generic (n : Nat) (G : Array Nat → Nat → Prop) (canon : Array W → Option (Array W))
    (hG : CertGroup n G)
    (spec : ∀ f, WF n f → ∃ c, canon f = some c ∧ WF n c ∧ (∃ σ μ, G σ μ ∧ CertRel n f c σ μ) ∧
      ∀ t, WF n t → (∃ σ μ, G σ μ ∧ CertRel n f t σ μ) → toNatLE c.toList ≤ toNatLE t.toList) :
    (∀ f g, WF n f → WF n g → ((∃ σ μ, G σ μ ∧ CertRel n f g σ μ) ↔ canon f = canon g)) ∧
    (∀ f c, WF n f → canon f = some c → canon c = some c) := by
  refine ⟨fun f g hf hg => ?_, fun f c hf hc => ?_⟩
  · obtain ⟨cf, ef, wf, of, minf⟩ := spec f hf
    obtain ⟨cg, eg, wg, og, ming⟩ := spec g hg
    rw [ef, eg]
    constructor
    · intro h
      -- each is the least of the common class, and a well-formed table is determined by its number
      rw [eq_of_toNatLE wf wg (Nat.le_antisymm (minf cg wg (hG.trans h og)) (ming cf wf (hG.trans (hG.symm h) of)))]
    · intro e
      cases e
      exact hG.trans of (hG.symm og)
  · obtain ⟨c0, e0, wc, oc, minf⟩ := spec f hf
    cases hc.symm.trans e0
    obtain ⟨c', e', wc', oc', minc⟩ := spec c wc
    rw [e', eq_of_toNatLE wc' wc (Nat.le_antisymm (minc c wc (hG.refl c)) (minf c' wc' (hG.trans oc oc')))]

/-- **C04, classes**, NPN (n <= 64).  The three `*_classes`: same representative exactly when g is the image of
    f under the group, and a representative is its own.  They compare `Option`s: read with `no_panic`. -/
theorem npn_classes (n : Nat) (h64 : n ≤ 64) :
    (∀ f g, WF n f → WF n g →
      ((∃ σ μ, (IsPerm n σ ∧ μ < 2 ^ (n + 1)) ∧ CertRel n f g σ μ) ↔
        (npnCanonization n f).map (·.1) = (npnCanonization n g).map (·.1))) ∧
    (∀ f c, WF n f → (npnCanonization n f).map (·.1) = some c → (npnCanonization n c).map (·.1) = some c) := by
  refine class_generic n _ (fun f => (npnCanonization n f).map (·.1)) (npnGroup n) fun f hf => ?_
  obtain ⟨c, perm, mask, h, wc, w1, w2, rel, hmin⟩ := npn_orbit_min_all n h64 f hf
  exact ⟨c, by rw [h]; rfl, wc, ⟨perm, mask, ⟨w1, w2⟩, rel⟩, fun t ht ⟨σ, μ, hg, hr⟩ => hmin σ μ t hg.1 hg.2 ht hr⟩

/-- P (every n): mask 0 -/
theorem p_classes (n : Nat) :
    (∀ f g, WF n f → WF n g →
      ((∃ σ μ, (IsPerm n σ ∧ μ = 0) ∧ CertRel n f g σ μ) ↔
        (pCanonization n f).map (·.1) = (pCanonization n g).map (·.1))) ∧
    (∀ f c, WF n f → (pCanonization n f).map (·.1) = some c → (pCanonization n c).map (·.1) = some c) := by
  refine class_generic n _ (fun f => (pCanonization n f).map (·.1)) (pGroup n) fun f hf => ?_
  obtain ⟨c, perm, h, wc, w1, rel, hmin⟩ := p_orbit_min_all n f hf
  refine ⟨c, by rw [h]; rfl, wc, ⟨perm, 0, ⟨w1, rfl⟩, rel⟩, ?_⟩
  rintro t ht ⟨σ, _, ⟨p, rfl⟩, hr⟩
  exact hmin σ t p ht hr

/-- N (n <= 64): identity permutation -/
theorem n_classes (n : Nat) (h64 : n ≤ 64) :
    (∀ f g, WF n f → WF n g →
      ((∃ σ μ, (σ = Array.range n ∧ μ < 2 ^ (n + 1)) ∧ CertRel n f g σ μ) ↔
        (nCanonization n f).map (·.1) = (nCanonization n g).map (·.1))) ∧
    (∀ f c, WF n f → (nCanonization n f).map (·.1) = some c → (nCanonization n c).map (·.1) = some c) := by
  refine class_generic n _ (fun f => (nCanonization n f).map (·.1)) (nGroup n) fun f hf => ?_
  obtain ⟨c, mask, h, wc, w2, rel, hmin⟩ := n_orbit_min_all n h64 f hf
  refine ⟨c, by rw [h]; rfl, wc, ⟨_, mask, ⟨rfl, w2⟩, rel⟩, ?_⟩
  rintro t ht ⟨_, μ, ⟨rfl, hμ⟩, hr⟩
  exact hmin μ t hμ ht hr

/-- non-vacuity; only the representative is stated: the certificate depends on the walk, and another valid
    table in /repo must not break this file -/
example : (npnCanonization 3 #[0xe8#64]).map (·.1) = some #[0x17#64] := by decide +kernel

end VoluteModel.Props.C04
