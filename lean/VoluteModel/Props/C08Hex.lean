import VoluteModel.Props.C08
import VoluteModel.Props.C09

/-!
# C08 and C09 together: the library's order is the lexicographic order of the fixed-width hex strings
-/

namespace VoluteModel.Props.C08
open VoluteModel.Props.C09

/-- lexicographic comparison of byte strings (`str::cmp`) -/
def lexBytes : List Nat → List Nat → Ordering
  | [], [] => .eq
  | [], _ :: _ => .lt
  | _ :: _, [] => .gt
  | a :: as, b :: bs => match compare a b with
    | .eq => lexBytes as bs
    | o => o

theorem lex_numeric (ds es : List Nat) (hlen : ds.length = es.length)
    (h1 : ∀ d ∈ ds, d < 16) (h2 : ∀ e ∈ es, e < 16) :
    lexBytes (ds.map hexDigit) (es.map hexDigit) = compare (ofDigits 4 ds) (ofDigits 4 es) := by
  induction ds, es, hlen using length_eq_induction with
  | nil => rfl
  | cons d ds e es hl ih =>
    have t1 := (List.forall_mem_cons.mp h1).2
    have t2 := (List.forall_mem_cons.mp h2).2
    rw [ofDigits_cons, ofDigits_cons, ← hl, compare_add_mul (ofDigits_lt 4 ds t1) (hl ▸ ofDigits_lt 4 es t2),
      ← ih t1 t2, List.map_cons, List.map_cons, lexBytes, compare_hexDigit]
    rfl

/-- **C08/C09**: for two functions of the same number of variables the library's order is the
    lexicographic (byte) order of their fixed-width hex strings -/
theorem cmp_eq_hex_order (a b : Lut) (ha : a.WF) (hb : b.WF) (hn : a.n = b.n) :
    Dyn.cmp a b = lexBytes (Dyn.toHexString a) (Dyn.toHexString b) := by
  have hd := fun v w => digitsFixed_lt 4 v w
  rw [cmp_spec a b ha hb, if_neg (fun h => h hn), Dyn.toHexString, Dyn.toHexString, toHex_eq _ _ ha, toHex_eq _ _ hb,
    lex_numeric _ _ (by rw [digitsFixed_length, digitsFixed_length, ha.1, hb.1, hn]) (hd _ _) (hd _ _),
    ofDigits_hexWidth _ _ ha, ofDigits_hexWidth _ _ hb]
  rfl

end VoluteModel.Props.C08
