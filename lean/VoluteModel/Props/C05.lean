import VoluteModel.Lemmas.SeqFacts
import VoluteModel.Model.Api

/-!
# C05 - canonization witnesses (permutation, complementation mask) map input to result

The reading of the certificate is `CertRel` (Lemmas/CanonCert.lean).  P for every n, N and NPN for
n <= 64 (the width of `trailing_zeros` in the Gray-flip generator); the property asks for n <= 8.  The
sequence facts are kernel-evaluated for the tables of the source (n <= 6) and proved for the run-time
generators; the walk / certificate argument is for every admissible closed sequence.  64 is the model's
limit: in the source the returned mask is a `u32` and `1 << num_vars` overflows at n = 32 (the entries of perm are
`u8`), which the model's `Nat` mask and `Array Nat` perm do not reproduce, so for 32 <= n <= 64 the
theorems speak of the model only.
-/

namespace VoluteModel.Props.C05

/-- what the walk over `ms` returns: the state and the certificate after `k` steps -/
structure ResultAt (n : Nat) (f c : Array W) (perm : Array Nat) (mask : Nat) (ms : List (List Elem)) (k : Nat) : Prop where
  k_pos : 1 ≤ k
  k_le : k ≤ ms.length
  table : c = stateAt (applyElems n) f ms k
  cert : (perm, mask) = certAt n ms k
  rel : CertRel n f c perm mask
  minimal : ∀ j, j ≤ ms.length → ltT (stateAt (applyElems n) f ms j) c = false
  rels : ∀ j, j ≤ ms.length → CertRel n f (stateAt (applyElems n) f ms j) (certAt n ms j).1 (certAt n ms j).2

def Result (n : Nat) (f c : Array W) (perm : Array Nat) (mask : Nat) (ms : List (List Elem)) : Prop :=
  ∃ k, ResultAt n f c perm mask ms k

theorem Result.rel {n f c perm mask ms} (r : Result n f c perm mask ms) : CertRel n f c perm mask :=
  r.elim fun _ rk => rk.rel

/-- the two halves of a `*_canonization`, the walk `s` and the replay `res` over the closed walk `ms` -/
theorem result_of_walk {β : Type} (n : Nat) (f : Array W) (hf : WF n f) (ms : List (List Elem)) (hcl : ClosedWalk n ms)
    (s : WalkState) (res : Nat → Option β) (proj : Array Nat × Nat → β)
    (hs : s = mwalk n ⟨f, f, ms.length - 1, 0⟩ ms)
    (hres : ∀ bi, bi < ms.length → res bi = some (proj (certAt n ms (bi + 1)))) :
    ∃ k, (res s.bestInd).map (fun p => (s.best, p)) = some (s.best, proj (certAt n ms k)) ∧
      ResultAt n f s.best (certAt n ms k).1 (certAt n ms k).2 ms k := by
  subst hs
  obtain ⟨h3, h1, h2⟩ := walk_result n f hf ms hcl
  have hrels := fun j => (tracks_at n f hf ms hcl.safe j).rel
  refine ⟨_, by rw [hres _ h1]; rfl, Nat.succ_pos _, h1, h2.symm, rfl, ?_, h3, fun j _ => hrels j⟩
  rw [← h2]
  exact hrels _

/-- **C05**: perm is a permutation, mask has no bit above n -/
theorem result_wellformed (n : Nat) (f c : Array W) (perm : Array Nat) (mask : Nat) (ms : List (List Elem))
    (hsafe : Safe n (Array.range n, 0) ms.flatten) (r : Result n f c perm mask ms) :
    IsPerm n perm ∧ mask < 2 ^ (n + 1) := by
  obtain ⟨k, rk⟩ := r
  have := certAfter_ok (safe_prefix n _ ms k hsafe) ⟨isPerm_range n, Nat.two_pow_pos _⟩
  rwa [← certAt, ← rk.cert] at this

theorem p_result (n : Nat) (f : Array W) (hf : WF n f) (h2 : 2 ≤ n) (swaps : List Nat) (hsw : swapsFor n = some swaps)
    (hs : SwapFacts n swaps) :
    ∃ c perm, pCanonization n f = some (c, perm) ∧ Result n f c perm 0 (macroP swaps) := by
  obtain ⟨k, h, r⟩ := result_of_walk n f hf (macroP swaps) (macroP_closedWalk n swaps hs) (pCanonInd f swaps)
    (pCanonRes n swaps) Prod.fst (pCanonInd_eq n f swaps) (pCanonRes_eq n swaps hs.valid)
  rw [p_mask_zero] at r
  exact ⟨_, _, by rw [pCanonization, if_neg (Nat.not_le_of_lt h2), hsw]; exact h, k, r⟩

theorem n_result (n : Nat) (f : Array W) (hf : WF n f) (h1 : 1 ≤ n) (flips : List Nat) (hfl' : flipsFor n = some flips)
    (hfl : FlipFacts n flips) :
    ∃ c mask, nCanonization n f = some (c, mask) ∧ Result n f c (Array.range n) mask (macroN flips) := by
  obtain ⟨k, h, r⟩ := result_of_walk n f hf (macroN flips) (macroN_closedWalk n flips hfl) (nCanonInd n f flips)
    (nCanonRes n flips) Prod.snd (nCanonInd_eq n f flips) (nCanonRes_eq n flips)
  rw [certAt_macroN n flips k r.k_le] at r h
  exact ⟨_, _, by rw [nCanonization, if_neg (Nat.ne_of_gt h1), hfl']; exact h, k, r⟩

theorem npn_result (n : Nat) (f : Array W) (hf : WF n f) (h2 : 2 ≤ n) (swaps flips : List Nat)
    (hsw : swapsFor n = some swaps) (hfl' : flipsFor n = some flips) (hs : SwapFacts n swaps) (hfl : FlipFacts n flips) :
    ∃ c perm mask, npnCanonization n f = some (c, perm, mask) ∧ Result n f c perm mask (macroNPN swaps flips) := by
  obtain ⟨k, h, r⟩ := result_of_walk n f hf _ (macroNPN_closedWalk n swaps flips hs hfl) (npnCanonInd n f swaps flips)
    (npnCanonRes n swaps flips) id (npnCanonInd_eq n f swaps flips hfl.ne) (npnCanonRes_eq n swaps flips hfl.ne hs.valid)
  exact ⟨_, _, _, by rw [npnCanonization, if_neg (Nat.not_le_of_lt h2), hsw, hfl']; exact h, k, r⟩

theorem p_small (n : Nat) (h : n ≤ 1) (f : Array W) : pCanonization n f = some (f, Array.range n) := by
  rw [pCanonization, if_pos h]

theorem npn_small (n : Nat) (h : n ≤ 1) (f : Array W) :
    npnCanonization n f = (nCanonization n f).map (fun r => (r.1, Array.range n, r.2)) := by
  rw [npnCanonization, if_pos h]

theorem negs_closed : ClosedWalk 0 [[Elem.neg], [Elem.neg]] := ⟨by decide, ⟨trivial, trivial, trivial⟩, rfl⟩

/-- n = 0: the code compares `f` with its complement; that is the walk over the two output complements -/
theorem n_zero_result (f : Array W) (hf : WF 0 f) :
    ∃ c mask, nCanonization 0 f = some (c, mask) ∧ Result 0 f c (Array.range 0) mask [[Elem.neg], [Elem.neg]] := by
  have ht := tracks_at 0 f hf _ negs_closed.safe
  have hgg := notInplace_notInplace 0 f hf
  -- the visited tables are `f` and its complement
  have hmin : ∀ c, ltT f c = false → ltT (notInplace 0 f) c = false →
      ∀ j, j ≤ 2 → ltT (stateAt (applyElems 0) f [[Elem.neg], [Elem.neg]] j) c = false := fun c h0 h1 j hj =>
    match j, hj with
    | 0, _ => h0
    | 1, _ => h1
    | 2, _ => (congrArg (ltT · c) hgg).trans h0
  rw [nCanonization, if_pos rfl]
  by_cases hlt : ltT (notInplace 0 f) f = true
  · exact ⟨notInplace 0 f, 1, if_pos hlt, 1, ⟨Nat.le_refl 1, by decide, rfl, rfl, (ht 1).rel,
      hmin _ (ltT_asymm hlt) (ltT_irrefl _), fun j _ => (ht j).rel⟩⟩
  · exact ⟨f, 0, if_neg hlt, 2, ⟨by decide, Nat.le_refl 2, hgg.symm, rfl, cert_init 0 f,
      hmin _ (ltT_irrefl f) (Bool.eq_false_iff.mpr hlt), fun j _ => (ht j).rel⟩⟩

/-- **C05, P** (n >= 2), also when f is its own representative.  The three `*_certificate`: the returned
    certificate is a group element and maps f to the result.  `p_canonization` returns no mask and
    `n_canonization` no permutation: the `0` and the `Array.range n` are put in by the statements. -/
theorem p_certificate (n : Nat) (h2 : 2 ≤ n) (f : Array W) (hf : WF n f) :
    ∃ c perm, pCanonization n f = some (c, perm) ∧ IsPerm n perm ∧ CertRel n f c perm 0 := by
  obtain ⟨sw, hsw, hs, _⟩ := swapsFor_facts n h2
  obtain ⟨c, perm, h1, r⟩ := p_result n f hf h2 sw hsw hs
  exact ⟨c, perm, h1, (result_wellformed n f c perm 0 _ (macroP_closedWalk n sw hs).safe r).1, r.rel⟩

/-- **C05, N** (1 <= n <= 64) -/
theorem n_certificate (n : Nat) (h1 : 1 ≤ n) (h64 : n ≤ 64) (f : Array W) (hf : WF n f) :
    ∃ c mask, nCanonization n f = some (c, mask) ∧ mask < 2 ^ (n + 1) ∧ CertRel n f c (Array.range n) mask := by
  obtain ⟨fl, hfl', hfl, _⟩ := flipsFor_facts n h1 h64
  obtain ⟨c, mask, h, r⟩ := n_result n f hf h1 fl hfl' hfl
  exact ⟨c, mask, h, (result_wellformed n f c _ mask _ (macroN_closedWalk n fl hfl).safe r).2, r.rel⟩

/-- **C05, NPN** (2 <= n <= 64) -/
theorem npn_certificate (n : Nat) (h2 : 2 ≤ n) (h64 : n ≤ 64) (f : Array W) (hf : WF n f) :
    ∃ c perm mask, npnCanonization n f = some (c, perm, mask) ∧ IsPerm n perm ∧ mask < 2 ^ (n + 1) ∧
      CertRel n f c perm mask := by
  obtain ⟨sw, hsw, hs, _⟩ := swapsFor_facts n h2
  obtain ⟨fl, hfl', hfl, _⟩ := flipsFor_facts n (Nat.le_of_succ_le h2) h64
  obtain ⟨c, perm, mask, h, r⟩ := npn_result n f hf h2 sw fl hsw hfl' hs hfl
  obtain ⟨w1, w2⟩ := result_wellformed n f c perm mask _ (macroNPN_closedWalk n sw fl hs hfl).safe r
  exact ⟨c, perm, mask, h, w1, w2, r.rel⟩

/-- **C05, N, every n <= 64**: with the case n = 0 -/
theorem n_certificate_all (n : Nat) (h64 : n ≤ 64) (f : Array W) (hf : WF n f) :
    ∃ c mask, nCanonization n f = some (c, mask) ∧ mask < 2 ^ (n + 1) ∧ CertRel n f c (Array.range n) mask := by
  by_cases h1 : 1 ≤ n
  · exact n_certificate n h1 h64 f hf
  · obtain rfl : n = 0 := Nat.eq_zero_of_not_pos h1
    obtain ⟨c, mask, h, r⟩ := n_zero_result f hf
    exact ⟨c, mask, h, (result_wellformed 0 f c _ mask _ negs_closed.safe r).2, r.rel⟩

/-- **C05, NPN, every n <= 64**: with n <= 1, where the code calls `n_canonization` -/
theorem npn_certificate_all (n : Nat) (h64 : n ≤ 64) (f : Array W) (hf : WF n f) :
    ∃ c perm mask, npnCanonization n f = some (c, perm, mask) ∧ IsPerm n perm ∧ mask < 2 ^ (n + 1) ∧
      CertRel n f c perm mask := by
  by_cases h2 : 2 ≤ n
  · exact npn_certificate n h2 h64 f hf
  · obtain ⟨c, mask, h, w⟩ := n_certificate_all n h64 f hf
    exact ⟨c, Array.range n, mask, by rw [npn_small n (Nat.le_of_not_lt h2), h]; rfl, isPerm_range n, w⟩

/-- **C05**, API level (both types go through the same functions) -/
theorem api_npn (l : Lut) (hl : l.WF) (h64 : l.n ≤ 64) :
    ∃ c perm mask, Dyn.npnCanonization l = some (c, perm, mask) ∧ c.n = l.n ∧ IsPerm l.n perm ∧
      mask < 2 ^ (l.n + 1) ∧ CertRel l.n l.t c.t perm mask := by
  obtain ⟨c, perm, mask, h, w⟩ := npn_certificate_all l.n h64 l.t hl
  exact ⟨⟨l.n, c⟩, perm, mask, by rw [Dyn.npnCanonization, h]; rfl, rfl, w⟩

/-- non-vacuity: majority-3 is its own P representative, the case whose certificate is the walk's closing
    element; only the table is stated (see the example of C04) -/
example : (pCanonization 3 #[0xe8#64]).map (·.1) = some #[0xe8#64] := by decide +kernel

end VoluteModel.Props.C05
