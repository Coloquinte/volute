import VoluteModel.Model.Api
import VoluteModel.Lemmas.SortDedup
import VoluteModel.Lemmas.BddWords
import VoluteModel.Props.C10

/-!
# C07 - bdd_complexity counts the distinct normalised sub-functions per level

The code cuts the table into chunks inside a word (levels 1..5) or groups of words (from level 6),
normalises, filters, sorts and deduplicates.  With the loops in closed form each level has an explicit
list; read as numbers (`levelNums`) its members are the sub-functions the shared ROBDD has a non-literal
node for (`mem_levelNums`).  The invariances and `Props/C07Robdd.lean` use only that.
-/

namespace VoluteModel.Props.C07
open Robdd

/-- normalisation of a chunk: complement when the all-zero assignment gives 1, keep the bits of `mask` -/
def normChunk (mask c : W) : W := (if c &&& 1#64 != 0#64 then ~~~ c else c) &&& mask

/-- the chunks the loop pushes, in closed form -/
def chunkList (shift : Nat) (mask : W) (iters : Nat) (c : W) : List W :=
  ((List.range iters).map fun i => normChunk mask (c >>> (i * shift))).filter (· != 0#64)

theorem mem_chunkList (shift : Nat) (mask : W) (iters : Nat) (c x : W) :
    x ∈ chunkList shift mask iters c ↔ ∃ j, j < iters ∧ x = normChunk mask (c >>> (j * shift)) ∧ x ≠ 0#64 := by
  unfold chunkList
  simp only [List.mem_filter, List.mem_map, List.mem_range, bv_bne_iff]
  constructor
  · rintro ⟨⟨j, hj, rfl⟩, hne⟩; exact ⟨j, hj, rfl, hne⟩
  · rintro ⟨j, hj, rfl, hne⟩; exact ⟨⟨j, hj, rfl⟩, hne⟩

theorem chunkList_succ (shift : Nat) (mask : W) (k : Nat) (c : W) :
    chunkList shift mask (k + 1) c =
      (if normChunk mask c != 0#64 then [normChunk mask c] else []) ++ chunkList shift mask k (c >>> shift) := by
  unfold chunkList
  rw [List.range_succ_eq_map, List.map_cons, List.map_map, List.filter_cons, Nat.zero_mul, BitVec.ushiftRight_zero]
  have hf : ((fun i => normChunk mask (c >>> (i * shift))) ∘ Nat.succ) =
      (fun i => normChunk mask ((c >>> shift) >>> (i * shift))) := by
    funext i
    show normChunk mask (c >>> ((i + 1) * shift)) = _
    rw [← BitVec.shiftRight_add, Nat.succ_mul, Nat.add_comm]
  rw [hf]
  split <;> rfl

/-- the loop of `level_complexity` pushes these chunks; at level 5 it does not shift, and takes
    one chunk -/
theorem levelChunks_eq (level shift : Nat) (mask : W) (iters : Nat) (h : level < 5 ∨ iters ≤ 1) :
    levelChunks level shift mask iters = chunkList shift mask iters := by
  funext c
  induction iters generalizing c with
  | zero => rfl
  | succ k ih =>
    rw [chunkList_succ]
    show (if normChunk mask c != 0#64 then [normChunk mask c] else []) ++
      levelChunks level shift mask k (if level < 5 then c >>> shift else c) = _
    rcases h with h | h
    · rw [if_pos h, ih (Or.inl h)]
    · obtain rfl : k = 0 := Nat.le_zero.mp (Nat.le_of_succ_le_succ h)
      rfl

/-- the members of the list counted at a small level -/
def KeptSmall (t : Array W) (level : Nat) (x : W) : Prop :=
  ∃ w ∈ t.toList, ∃ j, j < (64 + 2 ^ (level + 1) - 1) / 2 ^ (level + 1) ∧
    x = normChunk (~~~ 0#64 >>> (64 - 2 ^ (level + 1))) (w >>> (j * 2 ^ (level + 1))) ∧ x ≠ 0#64 ∧
    levelKeep level x = true

/-- the list whose length `level_complexity` returns -/
def smallList (t : Array W) (v : Nat) : List W :=
  dedupAdj (((t.toList.flatMap (chunkList (2 ^ (v + 1)) (~~~ 0#64 >>> (64 - 2 ^ (v + 1)))
    ((64 + 2 ^ (v + 1) - 1) / 2 ^ (v + 1)))).filter (levelKeep v)).mergeSort (fun a b => a.toNat ≤ b.toNat))

theorem levelComplexity_eq (t : Array W) (v : Nat) (h1 : 1 ≤ v) (h5 : v ≤ 5) :
    levelComplexity t v = some (smallList t v).length := by
  have hit : v < 5 ∨ (64 + 2 ^ (v + 1) - 1) / 2 ^ (v + 1) ≤ 1 :=
    (Nat.lt_or_eq_of_le h5).imp_right fun e => by rw [e]; decide
  unfold levelComplexity smallList
  rw [if_neg (fun h => h ⟨Nat.lt_succ_of_le h5, h1⟩)]
  simp only [Nat.one_shiftLeft]
  rw [levelChunks_eq v _ _ _ hit]

theorem sort_dedup_toNat (l : List W) :
    (dedupAdj (l.mergeSort fun a b => a.toNat ≤ b.toNat)).Nodup ∧
      ∀ x, x ∈ dedupAdj (l.mergeSort fun a b => a.toNat ≤ b.toNat) ↔ x ∈ l :=
  sort_dedup_spec (fun a b : W => decide (a.toNat ≤ b.toNat))
    (fun _ _ _ h1 h2 => decide_eq_true (Nat.le_trans (of_decide_eq_true h1) (of_decide_eq_true h2)))
    (fun a b => by rcases Nat.le_total a.toNat b.toNat with h | h <;> simp [h])
    (fun _ _ h1 h2 => BitVec.eq_of_toNat_eq (Nat.le_antisymm (of_decide_eq_true h1) (of_decide_eq_true h2))) l

theorem smallList_nodup (t : Array W) (v : Nat) : (smallList t v).Nodup := (sort_dedup_toNat _).1

theorem mem_smallList (t : Array W) (v : Nat) (x : W) : x ∈ smallList t v ↔ KeptSmall t v x := by
  unfold smallList KeptSmall
  rw [(sort_dedup_toNat _).2 x, List.mem_filter, List.mem_flatMap]
  simp only [mem_chunkList]
  constructor
  · rintro ⟨⟨w, hw, j, hj, hx, hne⟩, hk⟩; exact ⟨w, hw, j, hj, hx, hne, hk⟩
  · rintro ⟨w, hw, j, hj, hx, hne, hk⟩; exact ⟨⟨w, hw, j, hj, hx, hne⟩, hk⟩

/-- the consecutive groups of `nb` words, in closed form -/
def grp (nb : Nat) (l : List W) : List (List W) :=
  (List.range (l.length / nb)).map (fun g => (l.drop (g * nb)).take nb)

theorem mem_grp (nb : Nat) (l : List W) (c : List W) :
    c ∈ grp nb l ↔ ∃ g, g < l.length / nb ∧ c = (l.drop (g * nb)).take nb := by
  unfold grp
  rw [List.mem_map]
  exact exists_congr fun g => and_congr List.mem_range eq_comm

theorem length_of_mem_grp {nb : Nat} {l c : List W} (h : c ∈ grp nb l) : c.length = nb := by
  obtain ⟨g, hg, rfl⟩ := (mem_grp nb l c).mp h
  have : (g + 1) * nb ≤ l.length := (Nat.le_div_iff_mul_le (Nat.pos_of_ne_zero fun h0 => by simp [h0] at hg)).mp hg
  rw [Nat.succ_mul] at this
  rw [List.length_take, List.length_drop]
  exact Nat.min_eq_left (Nat.le_sub_of_add_le' this)

theorem grp_nil (nb : Nat) : grp nb [] = [] := by simp [grp]

theorem grp_step (nb : Nat) (hnb : 0 < nb) (l : List W) (hl : nb ≤ l.length) :
    grp nb l = l.take nb :: grp nb (l.drop nb) := by
  unfold grp
  rw [List.length_drop, Nat.div_eq_sub_div hnb hl, List.range_succ_eq_map, List.map_cons, List.map_map]
  simp only [Nat.zero_mul, List.drop_zero]
  congr 1
  apply List.map_congr_left
  intro g _
  simp only [Function.comp, List.drop_drop]
  congr 2
  rw [Nat.succ_mul, Nat.add_comm]

theorem grp_append (nb : Nat) (hnb : 0 < nb) (k : Nat) (a b : List W) (ha : a.length = k * nb) :
    grp nb (a ++ b) = grp nb a ++ grp nb b := by
  induction k generalizing a with
  | zero =>
    have : a = [] := List.eq_nil_of_length_eq_zero (by simpa using ha)
    subst this
    simp [grp_nil]
  | succ k ih =>
    have hge : nb ≤ a.length := by rw [ha, Nat.succ_mul]; exact Nat.le_add_left _ _
    rw [grp_step nb hnb (a ++ b) (by rw [List.length_append]; exact Nat.le_add_right_of_le hge), grp_step nb hnb a hge,
      List.take_append_of_le_length hge, List.drop_append_of_le_length hge,
      ih (a.drop nb) (by rw [List.length_drop, ha, Nat.succ_mul, Nat.add_sub_cancel])]
    rfl

theorem grp_flatMap {α : Type} (nb : Nat) (hnb : 0 < nb) (f : α → List W) (xs : List α)
    (h : ∀ x ∈ xs, nb ∣ (f x).length) : grp nb (xs.flatMap f) = xs.flatMap (fun x => grp nb (f x)) := by
  induction xs with
  | nil => simp [grp_nil]
  | cons x xs ih =>
    obtain ⟨k, hk⟩ := h x (by simp)
    rw [List.flatMap_cons, List.flatMap_cons,
      grp_append nb hnb k (f x) _ (by rw [hk, Nat.mul_comm]), ih (fun y hy => h y (by simp [hy]))]

theorem wordGroups_eq (nb : Nat) (hnb : 0 < nb) (fuel : Nat) (l : List W) (hd : nb ∣ l.length)
    (hf : l.length ≤ fuel) : wordGroups nb fuel l = some (grp nb l) := by
  induction fuel generalizing l with
  | zero =>
    obtain rfl : l = [] := List.eq_nil_of_length_eq_zero (Nat.le_zero.mp hf)
    rw [grp_nil, wordGroups]
  | succ fuel ih =>
    cases l with
    | nil => rw [grp_nil, wordGroups]; rfl
    | cons a r =>
      have hge : nb ≤ (a :: r).length := Nat.le_of_dvd (Nat.succ_pos _) hd
      have hfuel : (a :: r).length - nb ≤ fuel := by omega
      rw [wordGroups, if_neg (by simp), if_neg (Nat.not_lt.mpr hge),
        ih _ (by rw [List.length_drop]; exact Nat.dvd_sub hd (Nat.dvd_refl nb)) (by rw [List.length_drop]; exact hfuel),
        Option.map_some, grp_step nb hnb _ hge]

/-- the same normalisation for a group of words -/
def normGroup (c : List W) : List W := if (c.headD 0) &&& 1#64 != 0#64 then c.map (~~~ ·) else c

theorem normGroup_length (c : List W) : (normGroup c).length = c.length := by
  unfold normGroup; split <;> simp

/-- one normalised group, dropped when it is the constant -/
def groupOpt (c : List W) : Option (List W) :=
  if (normGroup c).any (· != 0#64) then some (normGroup c) else none

/-- the members of the list counted at a large level -/
def KeptLarge (t : Array W) (level : Nat) (x : List W) : Prop :=
  ∃ c, c ∈ grp (2 ^ (level - 5)) t.toList ∧ x = normGroup c ∧
    x.any (· != 0#64) = true ∧ largeKeep (2 ^ (level - 6)) x = true

/-- the list whose length `large_level_complexity` returns -/
def largeList (t : Array W) (v : Nat) : List (List W) :=
  dedupAdj ((((grp (2 ^ (v - 5)) t.toList).filterMap groupOpt).filter (largeKeep (2 ^ (v - 6)))).mergeSort vecLe)

theorem largeLevelComplexity_eq (t : Array W) (v : Nat) (h6 : 6 ≤ v) (hd : 2 ^ (v - 5) ∣ t.size) :
    largeLevelComplexity t v = some (largeList t v).length := by
  unfold largeLevelComplexity
  rw [if_neg (fun h => h h6)]
  simp only [Nat.one_shiftLeft]
  rw [wordGroups_eq (2 ^ (v - 5)) (Nat.two_pow_pos _) t.size t.toList (by simpa using hd) (by simp)]
  rfl

theorem largeList_nodup (t : Array W) (v : Nat) : (largeList t v).Nodup :=
  (sort_dedup_spec vecLe vecLe_trans vecLe_total vecLe_antisymm _).1

theorem mem_largeList (t : Array W) (v : Nat) (x : List W) : x ∈ largeList t v ↔ KeptLarge t v x := by
  unfold largeList KeptLarge
  rw [(sort_dedup_spec vecLe vecLe_trans vecLe_total vecLe_antisymm _).2 x, List.mem_filter, List.mem_filterMap]
  simp only [groupOpt, Option.ite_none_right_eq_some, Option.some.injEq]
  constructor
  · rintro ⟨⟨c, hc, hany, rfl⟩, hk⟩; exact ⟨c, hc, rfl, hany, hk⟩
  · rintro ⟨c, hc, rfl, hany, hk⟩; exact ⟨⟨c, hc, hany, rfl⟩, hk⟩

/-- the numbers counted at level v: the kept chunks or groups of words, read as tables -/
def levelNums (t : Array W) (v : Nat) : List Nat :=
  if v ≤ 5 then (smallList t v).map BitVec.toNat else (largeList t v).map toNatLE

theorem levelNums_small (t : Array W) {v : Nat} (h5 : v ≤ 5) : levelNums t v = (smallList t v).map BitVec.toNat :=
  if_pos h5

theorem levelNums_large (t : Array W) {v : Nat} (h6 : 6 ≤ v) : levelNums t v = (largeList t v).map toNatLE :=
  if_neg (Nat.not_le_of_lt h6)

theorem mem_levelNums_small (t : Array W) {v : Nat} (h5 : v ≤ 5) (g : Nat) :
    g ∈ levelNums t v ↔ ∃ x, KeptSmall t v x ∧ x.toNat = g := by
  rw [levelNums_small t h5, List.mem_map]
  simp only [mem_smallList]

theorem mem_levelNums_large (t : Array W) {v : Nat} (h6 : 6 ≤ v) (g : Nat) :
    g ∈ levelNums t v ↔ ∃ x, KeptLarge t v x ∧ toNatLE x = g := by
  rw [levelNums_large t h6, List.mem_map]
  simp only [mem_largeList]

theorem keptLarge_length {t : Array W} {v : Nat} {x : List W} (h : KeptLarge t v x) : x.length = 2 ^ (v - 5) := by
  obtain ⟨c, hc, rfl, _⟩ := h
  rw [normGroup_length, length_of_mem_grp hc]

theorem levelNums_nodup (t : Array W) (v : Nat) : (levelNums t v).Nodup := by
  by_cases h5 : v ≤ 5
  · rw [levelNums_small t h5]
    exact nodup_map_of_injOn (smallList_nodup t v) fun _ _ _ _ => BitVec.eq_of_toNat_eq
  · rw [levelNums_large t (Nat.lt_of_not_le h5)]
    -- kept groups all have 2^(v-5) words, and among those a group is determined by its number
    refine nodup_map_of_injOn (largeList_nodup t v) fun x hx y hy e => ?_
    rw [mem_largeList] at hx hy
    exact toNatLE_inj _ _ (by rw [keptLarge_length hx, keptLarge_length hy]) e

/-- one step of `table_complexity`'s sums: add a level's count, a panic (`none`) stays a panic -/
def stepWith (f : Nat → Option Nat) : Option Nat → Nat → Option Nat :=
  fun acc level => match acc, f level with
    | some a, some b => some (a + b)
    | _, _ => none

-- the two `match`es in `tableComplexity` are different constants to `rw`; restated with the one `stepWith`
theorem tableComplexity_eq (n : Nat) (t : Array W) :
    tableComplexity n t =
      (List.range' 6 (n - 6)).foldl (stepWith (largeLevelComplexity t))
        ((List.range' 1 (min n 6 - 1)).foldl (stepWith (levelComplexity t)) (some 0)) := rfl

/-- the fold is a sum as long as no level panics -/
theorem fold_optAdd (f : Nat → Option Nat) (g : Nat → Nat) (ls : List Nat) (a : Nat)
    (h : ∀ l ∈ ls, f l = some (g l)) :
    ls.foldl (stepWith f) (some a) = some (a + (ls.map g).sum) := by
  induction ls generalizing a with
  | nil => simp
  | cons l ls ih =>
    rw [List.foldl_cons]
    have : stepWith f (some a) l = some (a + g l) := by
      unfold stepWith; rw [h l (by simp)]
    rw [this, ih (a + g l) (fun l' hl' => h l' (by simp [hl']))]
    simp only [List.map_cons, List.sum_cons, Nat.add_assoc]

theorem group_dvd_tableSize {n level : Nat} (hn : level < n) : 2 ^ (level - 5) ∣ tableSize n := by
  rw [tableSize_eq_two_pow]
  exact Nat.pow_dvd_pow 2 (Nat.sub_le_sub_right hn 6)

theorem levels_split (n : Nat) : List.range' 1 (n - 1) = List.range' 1 (min n 6 - 1) ++ List.range' 6 (n - 6) := by
  by_cases h6 : n ≤ 6
  · rw [Nat.min_eq_left h6, Nat.sub_eq_zero_of_le h6, List.range'_zero, List.append_nil]
  · rw [Nat.min_eq_right (Nat.le_of_not_le h6)]
    show _ = List.range' 1 5 ++ List.range' (1 + 5) (n - 6)
    have e : 5 + (n - 6) = n - 1 := by omega
    rw [List.range'_append_1, e]

theorem tableComplexity_eq_sum (n : Nat) (t : Array W) (k : Nat) (hs : t.size = k * tableSize n) :
    tableComplexity n t = some (((List.range' 1 (n - 1)).map fun v => (levelNums t v).length).sum) := by
  have hsmall : ∀ v ∈ List.range' 1 (min n 6 - 1), levelComplexity t v = some (levelNums t v).length := by
    intro v hv
    rw [List.mem_range'_1] at hv
    have h5 : v ≤ 5 := Nat.le_of_lt_succ (Nat.lt_of_lt_of_le hv.2
      (Nat.add_le_add_left (Nat.sub_le_sub_right (Nat.min_le_right n 6) 1) 1))
    rw [levelNums_small t h5, List.length_map, levelComplexity_eq t v hv.1 h5]
  have hlarge : ∀ v ∈ List.range' 6 (n - 6), largeLevelComplexity t v = some (levelNums t v).length := by
    intro v hv
    have hv := mem_range'_sub.mp hv
    rw [levelNums_large t hv.1, List.length_map, largeLevelComplexity_eq t v hv.1
      (hs ▸ Nat.dvd_trans (group_dvd_tableSize hv.2) (Nat.dvd_mul_left _ _))]
  rw [tableComplexity_eq, fold_optAdd _ _ _ 0 hsmall, fold_optAdd _ _ _ _ hlarge, Nat.zero_add, levels_split n,
    List.map_append, List.sum_append]

theorem normChunk_toNat (v : Nat) (hv : v ≤ 5) (w : W) (j : Nat) :
    (normChunk (~~~ 0#64 >>> (64 - 2 ^ (v + 1))) (w >>> (j * 2 ^ (v + 1)))).toNat =
      norm (v + 1) (sub v j w.toNat) := by
  have h64 : 2 ^ (v + 1) ≤ 64 := two_pow_le_64 (Nat.succ_le_succ hv)
  have hpar : sub v j w.toNat % 2 = (w >>> (j * 2 ^ (v + 1))).toNat % 2 := by
    unfold sub
    rw [BitVec.toNat_ushiftRight, Nat.shiftRight_eq_div_pow]
    exact Nat.mod_mod_of_dvd _ (Nat.dvd_of_mod_eq_zero (P_even (v + 1)))
  unfold normChunk norm compl
  rw [and_one_ne_toNat, hpar]
  by_cases h : (w >>> (j * 2 ^ (v + 1))).toNat % 2 = 1
  · simp only [h, decide_true, if_true]
    rw [not_and_lowmask_toNat _ h64, BitVec.toNat_ushiftRight, Nat.shiftRight_eq_div_pow]
    rfl
  · simp only [h, decide_false, if_false, Bool.false_eq_true]
    rw [and_lowmask_toNat _ h64, BitVec.toNat_ushiftRight, Nat.shiftRight_eq_div_pow]
    rfl

theorem keptSmall_toNat (n v : Nat) (hv5 : v ≤ 5) (hvn : v < n) (t : Array W) (hf : WF n t) (g : Nat) :
    (∃ x, KeptSmall t v x ∧ x.toNat = g) ↔ Kept1 n v (toNatLE t.toList) g := by
  -- chunk j of word q is block q * 2^(5-v) + j
  have hchunk : ∀ q (hq : q < t.size) j, j < 2 ^ (5 - v) →
      (normChunk (~~~ 0#64 >>> (64 - 2 ^ (v + 1))) (t[q] >>> (j * 2 ^ (v + 1)))).toNat =
        norm (v + 1) (sub v (q * 2 ^ (5 - v) + j) (toNatLE t.toList)) := by
    intro q hq j hj
    rw [normChunk_toNat v hv5, word_toNat t q hq, sub_sub hv5 q _ hj]
  -- the code takes 2^(5-v) chunks from every word, no fewer than the table has blocks
  have hN : 2 ^ (n - 1 - v) ≤ t.size * 2 ^ (5 - v) := by
    apply Nat.le_of_mul_le_mul_right _ (Nat.two_pow_pos (v + 1))
    rw [blocks_mul hvn, Nat.mul_assoc, blocks_mul (Nat.lt_succ_of_le hv5), hf.1, Nat.mul_comm, tableSize_bits]
    exact Nat.le_max_right _ _
  have hkeep : ∀ (x : W) a, x.toNat = norm (v + 1) (sub v a (toNatLE t.toList)) →
      (levelKeep v x = true ↔ keeps v x.toNat) :=
    fun x a hx => levelKeep_toNat v hv5 x (hx ▸ (norm_valid _ _ (sub_lt _ _ _)).1)
  rw [kept1_iff g hvn (toNatLE_lt_of_WF hf) hN]
  unfold KeptSmall
  rw [iters_eq v hv5]
  constructor
  · rintro ⟨x, ⟨w, hw, j, hj, hx, _, hk⟩, rfl⟩
    obtain ⟨q, hq, rfl⟩ := List.getElem_of_mem hw
    have hq' : q < t.size := by simpa using hq
    have hval := hchunk q hq' j hj
    rw [← Array.getElem_toList hq', ← hx] at hval
    refine ⟨_, ?_, hval, (hkeep x _ hval).mp hk⟩
    rw [Nat.add_comm, Nat.mul_comm q, Nat.mul_comm t.size]
    exact add_mul_lt hj hq'
  · rintro ⟨a, ha, hg, hk⟩
    -- block a is chunk a % 2^(5-v) of word a / 2^(5-v)
    have hq : a / 2 ^ (5 - v) < t.size := Nat.div_lt_of_lt_mul (Nat.mul_comm _ _ ▸ ha)
    have hj : a % 2 ^ (5 - v) < 2 ^ (5 - v) := Nat.mod_lt _ (Nat.two_pow_pos _)
    have hval := hchunk _ hq _ hj
    rw [Nat.mul_comm (a / _), Nat.div_add_mod, ← hg] at hval
    rw [← hval] at hk
    refine ⟨_, ⟨t[a / 2 ^ (5 - v)], by simp, a % 2 ^ (5 - v), hj, rfl, fun h0 => not_keeps_zero v ?_,
      (hkeep _ a (hval.trans hg)).mpr hk⟩, hval⟩
    rw [h0] at hk
    exact hk

theorem normGroup_toNat (c : List W) (j : Nat) (hc : c.length = 2 ^ j) :
    toNatLE (normGroup c) = norm (j + 6) (toNatLE c) := by
  unfold normGroup norm compl
  rw [and_one_ne_toNat, P_words, ← hc]
  rw [toNatLE_mod_two]
  by_cases h : (c.headD 0).toNat % 2 = 1
  · simp only [h, decide_true, if_true]; exact toNatLE_map_not c
  · simp only [h, decide_false, if_false, Bool.false_eq_true]

theorem any_ne_zero (c : List W) : c.any (· != 0#64) = true ↔ toNatLE c ≠ 0 := by
  rw [ne_eq, toNatLE_eq_zero, List.any_eq_true]
  simp only [bv_bne_iff, Classical.not_forall, exists_prop]

theorem keptLarge_toNat (n k : Nat) (hvn : k + 6 < n) (t : Array W) (hf : WF n t) (g : Nat) :
    (∃ x, KeptLarge t (k + 6) x ∧ toNatLE x = g) ↔ Kept1 n (k + 6) (toNatLE t.toList) g := by
  -- the table is 2^(n-1-(k+6)) groups of 2^(k+1) words
  have hN : 2 ^ (n - 1 - (k + 6)) ≤ t.toList.length / 2 ^ (k + 1) := by
    have e : n - 6 = n - 1 - (k + 6) + (k + 1) := by omega
    rw [Array.length_toList, hf.1, tableSize_eq_two_pow, e, Nat.pow_add, Nat.mul_div_cancel _ (Nat.two_pow_pos _)]
    exact Nat.le_refl _
  -- group a, normalised, is block a, normalised
  have hgroup : ∀ c a, c ∈ grp (2 ^ (k + 1)) t.toList → c = (t.toList.drop (a * 2 ^ (k + 1))).take (2 ^ (k + 1)) →
      (normGroup c).length = 2 ^ (k + 1) ∧
        toNatLE (normGroup c) = norm (k + 6 + 1) (sub (k + 6) a (toNatLE t.toList)) := by
    intro c a hc e
    have hl := length_of_mem_grp hc
    rw [normGroup_length, normGroup_toNat c (k + 1) hl, e, group_toNat (k + 1)]
    exact ⟨e ▸ hl, rfl⟩
  rw [kept1_iff g hvn (toNatLE_lt_of_WF hf) hN]
  unfold KeptLarge
  rw [show k + 6 - 5 = k + 1 from rfl, show k + 6 - 6 = k from rfl]
  constructor
  · rintro ⟨x, ⟨c, hc, rfl, _, hk⟩, rfl⟩
    obtain ⟨a, ha, e⟩ := (mem_grp _ _ c).mp hc
    obtain ⟨hl, hval⟩ := hgroup c a hc e
    exact ⟨a, ha, hval, (largeKeep_toNat k _ hl).mp hk⟩
  · rintro ⟨a, ha, hg, hk⟩
    have hc := (mem_grp _ _ _).mpr ⟨a, ha, rfl⟩
    obtain ⟨hl, hval⟩ := hgroup _ a hc rfl
    rw [← hg] at hval
    rw [← hval] at hk
    refine ⟨_, ⟨_, hc, rfl, (any_ne_zero _).mpr fun h0 => not_keeps_zero (k + 6) ?_,
      (largeKeep_toNat k _ hl).mpr hk⟩, hval⟩
    rwa [h0] at hk

/-- the hinge: what the code counts at level v of a well-formed table is what the shared BDD has a
    non-literal node for -/
theorem mem_levelNums (n v : Nat) (hv : v < n) (t : Array W) (hf : WF n t) (g : Nat) :
    g ∈ levelNums t v ↔ Kept1 n v (toNatLE t.toList) g := by
  by_cases h5 : v ≤ 5
  · rw [mem_levelNums_small t h5, keptSmall_toNat n v h5 hv t hf]
  · obtain ⟨k, rfl⟩ : ∃ k, v = k + 6 := ⟨v - 6, (Nat.sub_add_cancel (Nat.lt_of_not_le h5)).symm⟩
    rw [mem_levelNums_large t (Nat.le_add_left 6 k), keptLarge_toNat n k hv t hf]

theorem flat_length (n : Nat) (luts : List Lut) (h : ∀ l ∈ luts, l.t.size = tableSize n) :
    (luts.flatMap (fun l => l.t.toList)).length = luts.length * tableSize n := by
  rw [List.length_flatMap, List.map_congr_left (g := fun _ => tableSize n) fun l hl => Array.length_toList.trans (h l hl),
    List.map_const', List.sum_replicate_nat]

theorem flatComplexity_eq_sum (n : Nat) (F : List Lut) (h : ∀ l ∈ F, l.t.size = tableSize n) :
    tableComplexity n (F.flatMap (fun l => l.t.toList)).toArray =
      some (((List.range' 1 (n - 1)).map fun v => (levelNums (F.flatMap (fun l => l.t.toList)).toArray v).length).sum) :=
  tableComplexity_eq_sum n _ F.length (by rw [List.size_toArray, flat_length n F h])

theorem keptSmall_flat (luts : List Lut) (level : Nat) (x : W) :
    KeptSmall (luts.flatMap (fun l => l.t.toList)).toArray level x ↔ ∃ l ∈ luts, KeptSmall l.t level x := by
  unfold KeptSmall
  simp only [List.mem_flatMap]
  constructor
  · rintro ⟨w, ⟨l, hl, hw⟩, rest⟩; exact ⟨l, hl, w, hw, rest⟩
  · rintro ⟨l, hl, w, hw, rest⟩; exact ⟨w, ⟨l, hl, hw⟩, rest⟩

theorem keptLarge_flat (n : Nat) (luts : List Lut) (h : ∀ l ∈ luts, l.t.size = tableSize n)
    (level : Nat) (hn : level < n) (x : List W) :
    KeptLarge (luts.flatMap (fun l => l.t.toList)).toArray level x ↔ ∃ l ∈ luts, KeptLarge l.t level x := by
  unfold KeptLarge
  -- every table is a whole number of groups
  rw [List.toList_toArray, grp_flatMap _ (Nat.two_pow_pos _) _ _ fun l hl => by
    rw [Array.length_toList, h l hl]; exact group_dvd_tableSize hn]
  simp only [List.mem_flatMap]
  constructor
  · rintro ⟨c, ⟨l, hl, hc⟩, rest⟩; exact ⟨l, hl, c, hc, rest⟩
  · rintro ⟨l, hl, c, hc, rest⟩; exact ⟨c, ⟨l, hl, hc⟩, rest⟩

theorem mem_levelNums_flat (n : Nat) (luts : List Lut) (h : ∀ l ∈ luts, l.t.size = tableSize n)
    (v : Nat) (hn : v < n) (g : Nat) :
    g ∈ levelNums (luts.flatMap (fun l => l.t.toList)).toArray v ↔ ∃ l ∈ luts, g ∈ levelNums l.t v := by
  have swap : ∀ (α : Type) (K : Lut → α → Prop) (q : α → Prop),
      (∃ x, (∃ l ∈ luts, K l x) ∧ q x) ↔ ∃ l ∈ luts, ∃ x, K l x ∧ q x :=
    fun _ _ _ => ⟨fun ⟨x, ⟨l, hl, hk⟩, e⟩ => ⟨l, hl, x, hk, e⟩, fun ⟨l, hl, x, hk, e⟩ => ⟨x, ⟨l, hl, hk⟩, e⟩⟩
  by_cases h5 : v ≤ 5
  · simp only [mem_levelNums_small _ h5, keptSmall_flat]
    exact swap _ _ _
  · have h6 : 6 ≤ v := Nat.lt_of_not_le h5
    simp only [mem_levelNums_large _ h6, keptLarge_flat n luts h v hn]
    exact swap _ _ _

/-- `Lut::bdd_complexity` panics exactly when the numbers of variables differ -/
theorem dyn_panics_iff (l0 : Lut) (ls : List Lut) (h : ∀ l ∈ l0 :: ls, l.t.size = tableSize l.n) :
    Dyn.bddComplexity (l0 :: ls) = none ↔ ∃ l ∈ ls, l.n ≠ l0.n := by
  have hall_iff : (l0 :: ls).all (fun l => l.n == l0.n) = true ↔ ∀ l ∈ ls, l.n = l0.n := by
    simp only [List.all_cons, beq_self_eq_true, Bool.true_and, List.all_eq_true, beq_iff_eq]
  simp only [Dyn.bddComplexity, hall_iff]
  by_cases hall : ∀ l ∈ ls, l.n = l0.n
  · have hn : ∀ l ∈ l0 :: ls, l.n = l0.n := List.forall_mem_cons.mpr ⟨rfl, hall⟩
    rw [if_pos hall, flatComplexity_eq_sum l0.n (l0 :: ls) fun l hl => by rw [h l hl, hn l hl]]
    exact ⟨fun hc => (nomatch hc), fun ⟨l, hl, hne⟩ => absurd (hall l hl) hne⟩
  · rw [if_neg hall]
    simpa only [true_iff, Classical.not_forall, exists_prop, ne_eq] using hall

/-- C07, the two entry points agree (`C10.bdd_agree` under the name this property's documents use) -/
theorem stat_eq_dyn (n : Nat) (l0 : Lut) (ls : List Lut) (hall : ∀ l ∈ l0 :: ls, l.n = n) :
    Stat.bddComplexity n (l0 :: ls) = Dyn.bddComplexity (l0 :: ls) :=
  C10.bdd_agree n l0 ls hall

/-- under all invariances: the count depends only on the numbers contributed at each level -/
theorem stat_congr (n : Nat) (A B : List Lut)
    (hA : ∀ l ∈ A, l.t.size = tableSize n) (hB : ∀ l ∈ B, l.t.size = tableSize n)
    (h : ∀ v, v < n → ∀ g, (∃ l ∈ A, g ∈ levelNums l.t v) ↔ ∃ l ∈ B, g ∈ levelNums l.t v) :
    Stat.bddComplexity n A = Stat.bddComplexity n B := by
  unfold Stat.bddComplexity
  rw [flatComplexity_eq_sum n A hA, flatComplexity_eq_sum n B hB]
  refine congrArg (fun l => some (List.sum l)) (List.map_congr_left fun v hv => ?_)
  have hn : v < n := (mem_range'_sub.mp hv).2
  -- two duplicate-free lists with the same members
  refine ((List.perm_ext_iff_of_nodup (levelNums_nodup _ v) (levelNums_nodup _ v)).mpr fun g => ?_).length_eq
  rw [mem_levelNums_flat n A hA v hn, mem_levelNums_flat n B hB v hn]
  exact h v hn g

/-- `stat_congr` for the dynamic entry point -/
theorem dyn_congr (n : Nat) (a b : Lut) (as bs : List Lut)
    (hA : ∀ l ∈ a :: as, l.n = n ∧ l.t.size = tableSize n) (hB : ∀ l ∈ b :: bs, l.n = n ∧ l.t.size = tableSize n)
    (h : ∀ v, v < n → ∀ g, (∃ l ∈ a :: as, g ∈ levelNums l.t v) ↔ ∃ l ∈ b :: bs, g ∈ levelNums l.t v) :
    Dyn.bddComplexity (a :: as) = Dyn.bddComplexity (b :: bs) := by
  rw [← stat_eq_dyn n a as (fun l hl => (hA l hl).1), ← stat_eq_dyn n b bs (fun l hl => (hB l hl).1)]
  exact stat_congr n _ _ (fun l hl => (hA l hl).2) (fun l hl => (hB l hl).2) h

/-- C07, order -/
theorem dyn_perm_invariant (n : Nat) (A B : List Lut) (hp : A.Perm B)
    (hA : ∀ l ∈ A, l.n = n ∧ l.t.size = tableSize n) :
    Dyn.bddComplexity A = Dyn.bddComplexity B := by
  match A, B, hp with
  | [], [], _ => rfl
  | [], _ :: _, hp => exact absurd hp.length_eq (by simp)
  | _ :: _, [], hp => exact absurd hp.length_eq (by simp)
  | a :: as, b :: bs, hp =>
    exact dyn_congr n a b as bs hA (fun l hl => hA l (hp.mem_iff.mpr hl))
      fun _ _ _ => exists_congr fun l => and_congr_left' hp.mem_iff

/-- C07, duplicates -/
theorem dyn_dup_invariant (n : Nat) (a : Lut) (A : List Lut) (ha : a ∈ A)
    (hA : ∀ l ∈ A, l.n = n ∧ l.t.size = tableSize n) :
    Dyn.bddComplexity (a :: A) = Dyn.bddComplexity A := by
  obtain ⟨b, bs, rfl⟩ := List.exists_cons_of_ne_nil (List.ne_nil_of_mem ha)
  exact dyn_congr n a b (b :: bs) bs (List.forall_mem_cons.mpr ⟨hA a ha, hA⟩) hA
    fun _ _ _ => exists_congr fun l => and_congr_left' (List.mem_cons.trans (or_iff_right_of_imp fun e => e ▸ ha))

theorem levelNums_notInplace (n v : Nat) (hv : v < n) (t : Array W) (hwf : WF n t) (g : Nat) :
    g ∈ levelNums (notInplace n t) v ↔ g ∈ levelNums t v := by
  rw [mem_levelNums n v hv _ ((notInplace_spec n t hwf.1).1), mem_levelNums n v hv t hwf,
    toNatLE_notInplace n t hwf, kept1_compl _ hv (toNatLE_lt_of_WF hwf)]

/-- C07, invariance: order, duplicates, complementing a member (the node count itself is
    `bdd_is_shared_robdd`) -/
theorem stat_invariant (n : Nat) (A B : List Lut)
    (hA : ∀ l ∈ A, l.n = n ∧ WF n l.t) (hB : ∀ l ∈ B, l.n = n ∧ WF n l.t)
    (hAB : ∀ a ∈ A, a ∈ B ∨ Dyn.not a ∈ B) (hBA : ∀ b ∈ B, b ∈ A ∨ Dyn.not b ∈ A) :
    Stat.bddComplexity n A = Stat.bddComplexity n B := by
  apply stat_congr n A B (fun l hl => (hA l hl).2.1) (fun l hl => (hB l hl).2.1)
  intro v hv g
  -- a member or its complement is in the other list, and both contribute the same
  have move : ∀ X Y : List Lut, (∀ l ∈ X, l.n = n ∧ WF n l.t) → (∀ a ∈ X, a ∈ Y ∨ Dyn.not a ∈ Y) →
      (∃ l ∈ X, g ∈ levelNums l.t v) → ∃ l ∈ Y, g ∈ levelNums l.t v := by
    rintro X Y hX hXY ⟨l, hl, hg⟩
    rcases hXY l hl with h | h
    · exact ⟨l, h, hg⟩
    · refine ⟨Dyn.not l, h, ?_⟩
      show g ∈ levelNums (notInplace l.n l.t) v
      rw [(hX l hl).1]
      exact (levelNums_notInplace n v hv l.t (hX l hl).2 g).mpr hg
  exact ⟨move A B hA hAB, move B A hB hBA⟩

/-- C07, complementing a member -/
theorem dyn_not_invariant (n : Nat) (a : Lut) (A : List Lut)
    (hA : ∀ l ∈ a :: A, l.n = n ∧ WF n l.t) :
    Dyn.bddComplexity (Dyn.not a :: A) = Dyn.bddComplexity (a :: A) := by
  obtain ⟨rfl, hwf⟩ := hA a List.mem_cons_self
  have hsz : ∀ l ∈ A, l.n = a.n ∧ l.t.size = tableSize a.n :=
    fun l hl => ⟨(hA l (List.mem_cons_of_mem _ hl)).1, (hA l (List.mem_cons_of_mem _ hl)).2.1⟩
  apply dyn_congr a.n (Dyn.not a) a A A (List.forall_mem_cons.mpr ⟨⟨rfl, (notInplace_spec a.n a.t hwf.1).1.1⟩, hsz⟩)
    (List.forall_mem_cons.mpr ⟨⟨rfl, hwf.1⟩, hsz⟩)
  intro v hv g
  simp only [List.mem_cons, exists_eq_or_imp]
  exact or_congr (levelNums_notInplace a.n v hv a.t hwf g) Iff.rfl

/-! The property in its own terms: the counts as duplicate-free lists of words and groups, the filters
bit by bit; with them three facts about `normChunk` on bits.  Nothing uses what follows, here or in
`Props/C07Robdd.lean`. -/

/-- `level_complexity` is the number of distinct kept normalised chunks -/
theorem level_spec (t : Array W) (level : Nat) (h1 : 1 ≤ level) (h5 : level ≤ 5) :
    ∃ L : List W, L.Nodup ∧ (∀ x, x ∈ L ↔ KeptSmall t level x) ∧ levelComplexity t level = some L.length :=
  ⟨smallList t level, smallList_nodup t level, mem_smallList t level, levelComplexity_eq t level h1 h5⟩

/-- the same from level 6 on -/
theorem large_spec (t : Array W) (level : Nat) (h6 : 6 ≤ level) (hd : 2 ^ (level - 5) ∣ t.size) :
    ∃ L : List (List W), L.Nodup ∧ (∀ x, x ∈ L ↔ KeptLarge t level x) ∧
      largeLevelComplexity t level = some L.length :=
  ⟨largeList t level, largeList_nodup t level, mem_largeList t level, largeLevelComplexity_eq t level h6 hd⟩

/-- `table_complexity` on k tables of n variables never panics, and is the sum of these counts -/
theorem table_spec (n : Nat) (t : Array W) (k : Nat) (hs : t.size = k * tableSize n) :
    ∃ cnt : Nat → Nat,
      tableComplexity n t = some (((List.range' 1 (min n 6 - 1)).map cnt).sum + ((List.range' 6 (n - 6)).map cnt).sum) ∧
      (∀ level, 1 ≤ level → level < n → level ≤ 5 →
        ∃ L : List W, L.Nodup ∧ (∀ x, x ∈ L ↔ KeptSmall t level x) ∧ L.length = cnt level) ∧
      (∀ level, 6 ≤ level → level < n →
        ∃ L : List (List W), L.Nodup ∧ (∀ x, x ∈ L ↔ KeptLarge t level x) ∧ L.length = cnt level) := by
  refine ⟨fun v => (levelNums t v).length, ?_, fun v _ _ h5 => ?_, fun v h6 _ => ?_⟩
  · rw [tableComplexity_eq_sum n t k hs, levels_split n, List.map_append, List.sum_append]
  · refine ⟨smallList t v, smallList_nodup t v, mem_smallList t v, ?_⟩
    show _ = (levelNums t v).length
    rw [levelNums_small t h5, List.length_map]
  · refine ⟨largeList t v, largeList_nodup t v, mem_largeList t v, ?_⟩
    show _ = (levelNums t v).length
    rw [levelNums_large t h6, List.length_map]

theorem normChunk_bit (s : Nat) (hs : s ≤ 64) (w : W) (off b : Nat) (hb : b < 64) :
    (normChunk (~~~ 0#64 >>> (64 - s)) (w >>> off)).getLsbD b =
      (decide (b < s) && (w.getLsbD (off + b) != w.getLsbD off)) := by
  unfold normChunk
  rw [shr_and_one_ne_zero, BitVec.getLsbD_and, lowmask_bit s hs b]
  cases h0 : w.getLsbD off
  · simp [BitVec.getLsbD_ushiftRight, Bool.and_comm]
  · simp only [if_true, BitVec.getLsbD_not, hb, decide_true, Bool.true_and, BitVec.getLsbD_ushiftRight]
    cases w.getLsbD (off + b) <;> cases decide (b < s) <;> rfl

/-- the filter: the two halves differ, and the chunk is not the literal x_level or its complement -/
theorem levelKeep_iff (level : Nat) (h5 : level ≤ 5) (x : W)
    (hx : ∀ b, b < 64 → 2 ^ (level + 1) ≤ b → x.getLsbD b = false) :
    levelKeep level x = true ↔
      (∃ b, b < 2 ^ level ∧ x.getLsbD b ≠ x.getLsbD (b + 2 ^ level)) ∧
      ¬ ((∀ b, b < 2 ^ level → x.getLsbD b = (!x.getLsbD (b + 2 ^ level))) ∧
         ((∀ b, b < 2 ^ level → x.getLsbD b = false) ∨ (∀ b, b < 2 ^ level → x.getLsbD (b + 2 ^ level) = false))) := by
  have hlt : x.toNat < P (level + 1) := toNat_lt_of_getLsbD hx
  have hl : x.toNat % P level < P level := Nat.mod_lt _ (P_pos _)
  have hh : x.toNat / P level < P level := div_P_lt hlt
  have bl : ∀ b, b < 2 ^ level → (x.toNat % P level).testBit b = x.getLsbD b := by
    intro b hb
    unfold P
    rw [Nat.testBit_mod_two_pow]
    simp [hb, BitVec.getLsbD]
  have bh : ∀ b, (x.toNat / P level).testBit b = x.getLsbD (b + 2 ^ level) := by
    intro b
    unfold P
    rw [Nat.testBit_div_two_pow]
    rfl
  have e1 : x.toNat % P level = x.toNat / P level ↔ ∀ b, b < 2 ^ level → x.getLsbD b = x.getLsbD (b + 2 ^ level) := by
    rw [eq_iff_testBit_lt hl hh]
    exact forall_congr' fun b => imp_congr_right fun hb => by rw [bl b hb, bh b]
  have e2 : x.toNat % P level = compl level (x.toNat / P level) ↔
      ∀ b, b < 2 ^ level → x.getLsbD b = (!x.getLsbD (b + 2 ^ level)) := by
    rw [eq_iff_testBit_lt hl (compl_lt _ _)]
    exact forall_congr' fun b => imp_congr_right fun hb => by
      rw [bl b hb, compl_testBit _ _ hh, bh b]; simp [hb]
  have e3 : x.toNat % P level = 0 ↔ ∀ b, b < 2 ^ level → x.getLsbD b = false := by
    rw [eq_iff_testBit_lt hl (P_pos _)]
    exact forall_congr' fun b => imp_congr_right fun hb => by rw [bl b hb, Nat.zero_testBit]
  have e4 : x.toNat / P level = 0 ↔ ∀ b, b < 2 ^ level → x.getLsbD (b + 2 ^ level) = false := by
    rw [eq_iff_testBit_lt hh (P_pos _)]
    exact forall_congr' fun b => imp_congr_right fun hb => by rw [bh b, Nat.zero_testBit]
  rw [levelKeep_toNat level h5 x hlt]
  unfold keeps dep
  rw [ne_eq, e1, e2, e3, e4]
  simp only [ne_eq, Classical.not_forall, exists_prop]

/-- complementing a word does not change its normalised chunks -/
theorem normChunk_compl (s : Nat) (hs1 : 1 ≤ s) (hs : s ≤ 64) (w : W) (off : Nat) (hoff : off + s ≤ 64) :
    normChunk (~~~ 0#64 >>> (64 - s)) ((~~~ w) >>> off) = normChunk (~~~ 0#64 >>> (64 - s)) (w >>> off) := by
  apply BitVec.eq_of_getLsbD_eq
  intro b hb
  rw [normChunk_bit s hs _ off b hb, normChunk_bit s hs w off b hb]
  by_cases hlt : b < s
  · have h1 : off + b < 64 := Nat.lt_of_lt_of_le (Nat.add_lt_add_left hlt off) hoff
    have h2 : off < 64 := Nat.lt_of_le_of_lt (Nat.le_add_right off b) h1
    simp only [hlt, decide_true, Bool.true_and, BitVec.getLsbD_not, h1, h2]
    cases w.getLsbD (off + b) <;> cases w.getLsbD off <;> rfl
  · rw [decide_eq_false hlt, Bool.false_and, Bool.false_and]

theorem normChunk_zero (mask : W) : normChunk mask 0#64 = 0#64 := by
  simp [normChunk]

/-- the large filter, likewise -/
theorem largeKeep_iff (midNb : Nat) (c : List W) :
    largeKeep midNb c = true ↔
      c.take midNb ≠ c.drop midNb ∧
      ¬ (((List.zip (c.take midNb) (c.drop midNb)).all (fun p => p.1 == ~~~ p.2)) = true ∧
         (((c.take midNb).all (· == 0#64)) = true ∨ ((c.drop midNb).all (· == 0#64)) = true)) := by
  unfold largeKeep
  simp only []
  rw [keep_ite, beq_iff_eq]

theorem empty_small (level : Nat) (h1 : 1 ≤ level) (h5 : level ≤ 5) : levelComplexity #[] level = some 0 := by
  rw [levelComplexity_eq #[] level h1 h5]
  simp [smallList, dedupAdj]

theorem bdd_empty : Dyn.bddComplexity [] = some 0 := rfl

/-- pieces on majority of three (0xe8) and its complement (0x17): the same chunks at level 1; the filters
    drop 0xa (no dependence on the top variable) and the literal 0xc.  No closed `bddComplexity [..] = some 3`:
    kernel evaluation gets stuck on `List.mergeSort` -/
example : chunkList 4 0xf#64 2 0xe8#64 = [0x8#64, 0xe#64] ∧ chunkList 4 0xf#64 2 0x17#64 = [0x8#64, 0xe#64] ∧
    levelKeep 2 0xe8#64 = true ∧ levelKeep 1 0x8#64 = true ∧ levelKeep 1 0xe#64 = true ∧
    levelKeep 1 0xa#64 = false ∧ levelKeep 1 0xc#64 = false := by decide

end VoluteModel.Props.C07
