import VoluteModel.Gen.Solver

/-!
# C18: what the external solver is asked to do

An optimal solution can only be assumed if the code asks for one.  `Gen/Solver.lean` is regenerated on
every run from `src/sop/optim/mip.rs`: for each `fn solve` the direction, the solver and every option
set before `.solve()`.  The obligation: both minimise with the default solver and set nothing but the
number of threads - no gap, time or node limit.
-/

namespace VoluteModel.Props.C18Solver
theorem solver_configuration :
    Gen.solveConfigs.length = 2 ∧
    ∀ c ∈ Gen.solveConfigs, c.1 = "minimise" ∧ c.2.1 = "default_solver" ∧ c.2.2 = ["set_threads(1)"] := by
  decide

end VoluteModel.Props.C18Solver
