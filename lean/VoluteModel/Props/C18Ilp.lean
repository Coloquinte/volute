import VoluteModel.Model.Mip
import VoluteModel.Props.C12
import VoluteModel.Props.C13
import VoluteModel.Lemmas.XorFold
import VoluteModel.Lemmas.RatSums

/-!
# C18, the integer programmes: what an optimal solution is

A feasible point of a programme of `Model/Mip.lean` decodes, by the `> 0.5` rule of `solve`, to a
selection of candidates per output; the rows say that it is an OR form by implicants, resp. an XOR
form, of every output.  So an optimal solution is a form of minimum cost - if the solver returns one,
which is assumed.  Continuous variables range over the rationals, as declared to it.  First for an
abstract `Prob`; from `probOf` on for the problems the entry points build.
-/

namespace VoluteModel.Mip

def ind (b : Bool) : Rat := if b then 1 else 0

theorem ind_bin (b : Bool) : isBin (ind b) := by cases b <;> simp [ind, isBin]

theorem ind_le_zero (b : Bool) : ind b ≤ 0 ↔ b = false := by cases b <;> decide

theorem ind_toNat (b : Bool) : ind b = (b.toNat : Rat) := by cases b <;> rfl

theorem sum_ind {α} (l : List α) (p : α → Bool) : (l.map (fun i => ind (p i))).sum = ((l.filter p).length : Rat) := by
  induction l with
  | nil => rfl
  | cons a l ih =>
    rw [List.map_cons, List.sum_cons, ih, List.filter_cons]
    cases p a
    · simp [ind, Rat.zero_add]
    · simp [ind, Rat.add_comm]

theorem evalLin_nil (σ : Var → Rat) : evalLin σ [] = 0 := rfl
theorem evalLin_cons (σ : Var → Rat) (p : Var × Rat) (t) : evalLin σ (p :: t) = p.2 * σ p.1 + evalLin σ t := by
  simp [evalLin]
theorem evalLin_append (σ : Var → Rat) (s t) : evalLin σ (s ++ t) = evalLin σ s + evalLin σ t := by
  simp [evalLin]
theorem evalLin_map (σ : Var → Rat) (l : List Nat) (f : Nat → Var) (c : Rat) :
    evalLin σ (l.map (fun i => (f i, c))) = c * (l.map (fun i => σ (f i))).sum := by
  induction l with
  | nil => exact (Rat.mul_zero c).symm
  | cons a l ih => rw [List.map_cons, evalLin_cons, ih, List.map_cons, List.sum_cons, Rat.mul_add]

theorem holds_le (σ : Var → Rat) (t : List (Var × Rat)) (r : Rat) : Con.holds σ ⟨t, false, r⟩ ↔ evalLin σ t ≤ r := Iff.rfl
theorem holds_eq (σ : Var → Rat) (t : List (Var × Rat)) (r : Rat) : Con.holds σ ⟨t, true, r⟩ ↔ evalLin σ t = r := Iff.rfl

theorem joinCon_holds (P : Prob) (σ : Var → Rat) (j : Nat) :
    (joinCon P j).holds σ ↔ ((rangeK P).map (fun i => σ (Var.x i j))).sum - σ (Var.n j) ≤ 1 := by
  rw [joinCon, holds_le, evalLin_append, evalLin_map, evalLin_cons, evalLin_nil]
  grind

theorem coverCon_holds (σ : Var → Rat) (i j : Nat) : (coverCon i j).holds σ ↔ σ (Var.x i j) ≤ σ (Var.u i) := by
  rw [coverCon, holds_le, evalLin_cons, evalLin_cons, evalLin_nil]
  grind

theorem offCon_holds (σ : Var → Rat) (i j : Nat) : (offCon i j).holds σ ↔ σ (Var.x i j) ≤ 0 := by
  rw [offCon, holds_le, evalLin_cons, evalLin_nil]
  grind

theorem onCon_holds (P : Prob) (σ : Var → Rat) (j b : Nat) :
    (onCon P j b).holds σ ↔ 1 ≤ (((rangeK P).filter (fun i => P.val i b)).map (fun i => σ (Var.x i j))).sum := by
  rw [onCon, holds_le, evalLin_map]
  grind

theorem parityCon_holds (σ : Var → Rat) (j : Nat) (l : List Nat) (v : Bool) (s : Var) :
    (parityCon j l v s).holds σ ↔ ind v + (l.map (fun i => σ (Var.x i j))).sum = -2 * σ s := by
  rw [parityCon, holds_eq, evalLin_append, evalLin_map, evalLin_cons, evalLin_nil, ind]
  grind

/-- number of candidates selected for output `j` -/
def cnt (P : Prob) (sel : Nat → Nat → Bool) (j : Nat) : Nat := ((rangeK P).filter (fun i => sel i j)).length
/-- candidate `i` is selected for some output -/
def usedBy (P : Prob) (sel : Nat → Nat → Bool) (i : Nat) : Bool := (rangeF P).any (fun j => sel i j)
/-- one join gate per extra term -/
def joinGates (c : Nat) : Rat := if c = 0 then 0 else (c : Rat) - 1
/-- the documented cost: gates of every distinct candidate used, once, plus the join gates of every output -/
def cost (P : Prob) (sel : Nat → Nat → Bool) : Rat :=
  ((rangeK P).map (fun i => if usedBy P sel i then (P.w i : Rat) else 0)).sum +
    (P.join : Rat) * ((rangeF P).map (fun j => joinGates (cnt P sel j))).sum
/-- number of candidates selected for output `j` that satisfy `q` -/
def cntAt (P : Prob) (sel : Nat → Nat → Bool) (j : Nat) (q : Nat → Bool) : Nat :=
  ((rangeK P).filter (fun i => q i && sel i j)).length

theorem cnt_eq_cntAt (P : Prob) (sel : Nat → Nat → Bool) (j : Nat) : cnt P sel j = cntAt P sel j (fun _ => true) := rfl

theorem mem_rangeK {P : Prob} {i : Nat} : i ∈ rangeK P ↔ i < P.K := List.mem_range
theorem mem_rangeF {P : Prob} {j : Nat} : j ∈ rangeF P ↔ j < P.F := List.mem_range
theorem mem_rangeB {P : Prob} {b : Nat} : b ∈ rangeB P ↔ b < P.B := List.mem_range

theorem usedBy_iff (P : Prob) (sel : Nat → Nat → Bool) (i : Nat) :
    usedBy P sel i = true ↔ ∃ j, j < P.F ∧ sel i j = true := by
  simp [usedBy, mem_rangeF]

/-- `joinGates c` is the least `r ≥ 0` with `c - r ≤ 1`: what the join constraint asks of `num_or_in_fn` -/
theorem joinGates_le_iff (c : Nat) (r : Rat) : joinGates c ≤ r ↔ 0 ≤ r ∧ (c : Rat) - r ≤ 1 := by
  unfold joinGates
  split
  · rename_i h; rw [h]; grind
  · rename_i h
    have : (1 : Rat) ≤ (c : Rat) := by exact_mod_cast Nat.one_le_iff_ne_zero.mpr h
    grind

theorem joinGates_nonneg (c : Nat) : 0 ≤ joinGates c := ((joinGates_le_iff c _).mp Rat.le_refl).1

theorem joinGates_mono (a b : Nat) (h : a ≤ b) : joinGates a ≤ joinGates b := by
  have hr : (a : Rat) ≤ (b : Rat) := by exact_mod_cast h
  have hb : (b : Rat) - joinGates b ≤ 1 := ((joinGates_le_iff b _).mp Rat.le_refl).2
  have ha : (a : Rat) - joinGates b ≤ 1 :=
    Rat.sub_right_le_iff_le_add.mpr (Rat.le_trans hr (Rat.sub_right_le_iff_le_add.mp hb))
  exact (joinGates_le_iff a _).mpr ⟨joinGates_nonneg b, ha⟩

theorem cost_nonneg (P : Prob) (sel : Nat → Nat → Bool) (hw : ∀ i, i < P.K → 0 ≤ P.w i) (hj : 0 ≤ P.join) :
    0 ≤ cost P sel := by
  refine Rat.add_nonneg (sum_nonneg_rat fun i hi => ?_)
    (Rat.mul_nonneg (by exact_mod_cast hj) (sum_nonneg_rat fun j _ => joinGates_nonneg _))
  split
  · exact_mod_cast hw i (mem_rangeK.mp hi)
  · exact Rat.le_refl

theorem objective_eq (P : Prob) (σ : Var → Rat) :
    objective P σ = ((rangeK P).map (fun i => (P.w i : Rat) * σ (Var.u i))).sum +
      (P.join : Rat) * ((rangeF P).map (fun j => σ (Var.n j))).sum := by
  rw [objective, objTerms, evalLin_append, evalLin_map]
  simp [evalLin, Function.comp_def]

theorem objective_mono (P : Prob) {σ σ' : Var → Rat} (hw : ∀ i, i < P.K → 0 ≤ P.w i) (hJ : 0 ≤ P.join)
    (hu : ∀ i, i < P.K → σ (Var.u i) ≤ σ' (Var.u i)) (hn : ∀ j, j < P.F → σ (Var.n j) ≤ σ' (Var.n j)) :
    objective P σ ≤ objective P σ' := by
  rw [objective_eq, objective_eq]
  refine add_le_add_rat (sum_le_sum_rat fun i hi => ?_)
    (Rat.mul_le_mul_of_nonneg_left (sum_le_sum_rat fun j hj => hn j (mem_rangeF.mp hj)) (by exact_mod_cast hJ))
  exact Rat.mul_le_mul_of_nonneg_left (hu i (mem_rangeK.mp hi)) (by exact_mod_cast hw i (mem_rangeK.mp hi))

theorem x_eq_ind {P : Prob} {σ : Var → Rat} (hd : Domains P σ) {i j : Nat} (hi : i < P.K) (hj : j < P.F) :
    σ (Var.x i j) = ind (decode σ i j) := by
  unfold decode
  rcases hd.2.1 i j hi hj with h | h <;> rw [h]
  · exact (congrArg ind (decide_eq_false (by decide +kernel))).symm
  · exact (congrArg ind (decide_eq_true (by decide +kernel))).symm

/-- every row is read through this: at 0/1 values of `x` a sum over candidates counts the decoded ones -/
theorem sum_x_eq {P : Prob} {σ : Var → Rat} (hd : Domains P σ) {j : Nat} (hj : j < P.F) (q : Nat → Bool) :
    (((rangeK P).filter q).map (fun i => σ (Var.x i j))).sum = (cntAt P (decode σ) j q : Rat) := by
  simp only [cntAt, Bool.and_comm (q _)]
  rw [← List.filter_filter, ← sum_ind]
  exact congrArg List.sum (List.map_congr_left fun i hi => x_eq_ind hd (mem_rangeK.mp (List.mem_filter.mp hi).1) hj)

theorem sum_x_all {P : Prob} {σ : Var → Rat} (hd : Domains P σ) {j : Nat} (hj : j < P.F) :
    ((rangeK P).map (fun i => σ (Var.x i j))).sum = (cnt P (decode σ) j : Rat) := by
  rw [cnt_eq_cntAt, ← sum_x_eq hd hj, List.filter_eq_self.mpr fun _ _ => rfl]

/-- the part common to both programmes: domains, `joinCon` and `coverCon` rows -/
def Base (P : Prob) (σ : Var → Rat) : Prop :=
  Domains P σ ∧
  (∀ j, j < P.F → ((rangeK P).map (fun i => σ (Var.x i j))).sum - σ (Var.n j) ≤ 1) ∧
  (∀ j, j < P.F → ∀ i, i < P.K → σ (Var.x i j) ≤ σ (Var.u i))

/-- the point encoding a selection: `x` its indicator, `u` that of `usedBy`, `n` the join gates; the
    slacks, which only the ESOP programme has, come from `sl` -/
def encode (P : Prob) (sel : Nat → Nat → Bool) (sl : Var → Rat) : Var → Rat
  | .u i => ind (usedBy P sel i)
  | .x i j => ind (sel i j)
  | .n j => joinGates (cnt P sel j)
  | v => sl v

theorem decode_encode (P : Prob) (sel : Nat → Nat → Bool) (sl : Var → Rat) : decode (encode P sel sl) = sel := by
  funext i j
  show decide (1 / 2 < ind (sel i j)) = sel i j
  cases sel i j <;> decide +kernel

theorem encode_base (P : Prob) (sel : Nat → Nat → Bool) (sl : Var → Rat)
    (hs1 : ∀ j b, isInt (sl (Var.sv j b))) (hs2 : ∀ j b fl, isInt (sl (Var.sd j b fl))) :
    Base P (encode P sel sl) := by
  have hd : Domains P (encode P sel sl) :=
    ⟨fun _ _ => ind_bin _, fun _ _ _ _ => ind_bin _, fun _ _ => joinGates_nonneg _, hs1, hs2⟩
  refine ⟨hd, fun j hj => ?_, fun j hj i _ => ?_⟩
  · rw [sum_x_all hd hj, decode_encode]
    exact ((joinGates_le_iff _ _).mp Rat.le_refl).2
  · show ind (sel i j) ≤ ind (usedBy P sel i)
    cases hs : sel i j
    · cases usedBy P sel i <;> decide
    · rw [(usedBy_iff P sel i).mpr ⟨j, hj, hs⟩]; exact Rat.le_refl

theorem encode_objective (P : Prob) (sel : Nat → Nat → Bool) (sl : Var → Rat) :
    objective P (encode P sel sl) = cost P sel := by
  rw [objective_eq, cost]
  congr 3
  funext i
  show (P.w i : Rat) * ind (usedBy P sel i) = _
  cases usedBy P sel i <;> simp [ind]

theorem cost_le_objective (P : Prob) (σ : Var → Rat) (h : Base P σ)
    (hw : ∀ i, i < P.K → 0 ≤ P.w i) (hJ : 0 ≤ P.join) : cost P (decode σ) ≤ objective P σ := by
  obtain ⟨hd, hjoin, hcover⟩ := h
  -- the encoding of the decoded selection lies below `σ` in every variable of the objective
  rw [← encode_objective P (decode σ) σ]
  refine objective_mono P hw hJ (fun i hi => ?_) (fun j hj => ?_)
  · show ind (usedBy P (decode σ) i) ≤ σ (Var.u i)
    cases hub : usedBy P (decode σ) i
    · rcases hd.1 i hi with h | h <;> rw [h] <;> decide
    · -- some output `j` uses `i`, and `1 = x i j ≤ u i`
      obtain ⟨j, hj, hdj⟩ := (usedBy_iff P _ i).mp hub
      have := hcover j hj i hi
      rwa [x_eq_ind hd hi hj, hdj] at this
  · show joinGates (cnt P (decode σ) j) ≤ σ (Var.n j)
    have := hjoin j hj
    rw [sum_x_all hd hj] at this
    exact (joinGates_le_iff _ _).mpr ⟨hd.2.2.1 j hj, this⟩

/-- the selection is an OR form by implicants of every output.  In an abstract `Prob`, `ok` is data of
    its own; only `probOf` ties it to `val` and `fv` (`term_impliesLut_iff`) -/
def OrRealises (P : Prob) (sel : Nat → Nat → Bool) : Prop :=
  (∀ i j, i < P.K → j < P.F → sel i j = true → P.ok i j = true) ∧
  ∀ j b, j < P.F → b < P.B → P.fv j b = true → ∃ i, i < P.K ∧ sel i j = true ∧ P.val i b = true

theorem one_le_cntAt (P : Prob) (sel : Nat → Nat → Bool) (j : Nat) (q : Nat → Bool) :
    1 ≤ (cntAt P sel j q : Rat) ↔ ∃ i, i < P.K ∧ sel i j = true ∧ q i = true := by
  rw [show (1 : Rat) = ((1 : Nat) : Rat) from rfl, Rat.natCast_le_natCast, cntAt, Nat.succ_le_iff, List.length_pos_iff_exists_mem]
  refine exists_congr fun i => ?_
  rw [List.mem_filter, mem_rangeK, Bool.and_eq_true, and_comm (a := q i = true)]

theorem sopFeasible_iff (P : Prob) (σ : Var → Rat) : SopFeasible P σ ↔ Base P σ ∧ OrRealises P (decode σ) := by
  have : SopFeasible P σ ↔ Base P σ ∧
      (∀ j, j < P.F → ∀ i, i < P.K → P.ok i j = false → σ (Var.x i j) ≤ 0) ∧
      (∀ j, j < P.F → ∀ b, b < P.B → P.fv j b = true →
        1 ≤ (((rangeK P).filter (fun i => P.val i b)).map (fun i => σ (Var.x i j))).sum) := by
    simp only [SopFeasible, sopCons, List.forall_mem_append, List.forall_mem_map, List.forall_mem_flatMap, List.forall_mem_filter,
      mem_rangeF, mem_rangeK, mem_rangeB, Bool.not_eq_true', and_assoc, Base, joinCon_holds, coverCon_holds, offCon_holds,
      onCon_holds]
  rw [this]
  refine and_congr_right fun ⟨hd, _⟩ => and_congr ⟨fun h i j hi hj hs => ?_, fun h j hj i hi hok => ?_⟩
    ⟨fun h j b hj hb hf => ?_, fun h j hj b hb hf => ?_⟩
  · cases hok : P.ok i j
    · have := h j hj i hi hok
      rw [x_eq_ind hd hi hj, ind_le_zero, hs] at this
      cases this
    · rfl
  · rw [x_eq_ind hd hi hj, ind_le_zero]
    cases hs : decode σ i j
    · rfl
    · rw [h i j hi hj hs] at hok; cases hok
  · have := h j hj b hb hf
    rwa [sum_x_eq hd hj, one_le_cntAt] at this
  · rw [sum_x_eq hd hj, one_le_cntAt]
    exact h j b hj hb hf

/-- C18, what the programmes mean, `SopModeler` then `EsopModeler`: a feasible point decodes to a form
    of every output costing at most the objective value (`*_sound`); every form over the candidates is
    a feasible point with its cost as objective value (`*_complete`); hence `*_optimal` -/
theorem sop_sound (P : Prob) (σ : Var → Rat) (h : SopFeasible P σ)
    (hw : ∀ i, i < P.K → 0 ≤ P.w i) (hj : 0 ≤ P.join) :
    OrRealises P (decode σ) ∧ cost P (decode σ) ≤ objective P σ := by
  obtain ⟨hb, hr⟩ := (sopFeasible_iff P σ).mp h
  exact ⟨hr, cost_le_objective P σ hb hw hj⟩

theorem sop_complete (P : Prob) (sel : Nat → Nat → Bool) (h : OrRealises P sel) :
    ∃ σ, SopFeasible P σ ∧ objective P σ = cost P sel ∧ ∀ i j, decode σ i j = sel i j := by
  refine ⟨encode P sel fun _ => 0, (sopFeasible_iff P _).mpr ⟨encode_base P sel _ (fun _ _ => ⟨0, rfl⟩) (fun _ _ _ => ⟨0, rfl⟩), ?_⟩,
    encode_objective P sel _, fun i j => by rw [decode_encode]⟩
  rwa [decode_encode]

theorem optimal_of_sound_complete {P : Prob} {Feas : (Var → Rat) → Prop} {R : (Nat → Nat → Bool) → Prop}
    (sound : ∀ σ, Feas σ → R (decode σ) ∧ cost P (decode σ) ≤ objective P σ)
    (complete : ∀ sel, R sel → ∃ σ, Feas σ ∧ objective P σ = cost P sel)
    (σ : Var → Rat) (hf : Feas σ) (hopt : ∀ σ', Feas σ' → objective P σ ≤ objective P σ') :
    R (decode σ) ∧ ∀ sel, R sel → cost P (decode σ) ≤ cost P sel := by
  refine ⟨(sound σ hf).1, fun sel hs => ?_⟩
  obtain ⟨σ', hf', ho'⟩ := complete sel hs
  exact Rat.le_trans (sound σ hf).2 (ho' ▸ hopt σ' hf')

theorem sop_optimal (P : Prob) (σ : Var → Rat) (hf : SopFeasible P σ)
    (hopt : ∀ σ', SopFeasible P σ' → objective P σ ≤ objective P σ')
    (hw : ∀ i, i < P.K → 0 ≤ P.w i) (hj : 0 ≤ P.join) :
    OrRealises P (decode σ) ∧ ∀ sel, OrRealises P sel → cost P (decode σ) ≤ cost P sel :=
  optimal_of_sound_complete (fun σ h => sop_sound P σ h hw hj)
    (fun sel h => (sop_complete P sel h).imp fun _ h => ⟨h.1, h.2.1⟩) σ hf hopt

/-- the selection is an XOR form of every output -/
def XorRealises (P : Prob) (sel : Nat → Nat → Bool) : Prop :=
  ∀ j b, j < P.F → b < P.B → P.fv j b = (cntAt P sel j (fun i => P.val i b) % 2 == 1)

theorem toNat_add_even (v : Bool) (c : Nat) : (v.toNat + c) % 2 = 0 ↔ v = (c % 2 == 1) := by
  rcases Nat.mod_two_eq_zero_or_one c with h | h <;> cases v <;> simp [Nat.add_mod, h]

/-- a parity row `v + c = -2 * slack` has an integer solution exactly when `v` is the parity of `c`: this one -/
def paritySlack (v : Bool) (c : Nat) : Rat := -(((v.toNat + c) / 2 : Nat) : Rat)

theorem isInt_paritySlack (v : Bool) (c : Nat) : isInt (paritySlack v c) := ⟨-((v.toNat + c) / 2 : Nat), by push_cast; rfl⟩

theorem parity_of_eq (v : Bool) (c : Nat) (z : Int) (h : ind v + (c : Rat) = -2 * (z : Rat)) :
    v = (c % 2 == 1) := by
  rw [ind_toNat, ← Rat.natCast_add, ← Rat.intCast_natCast, show (-2 : Rat) = ((-2 : Int) : Rat) from rfl, ← Rat.intCast_mul,
    Rat.intCast_inj] at h
  rw [← toNat_add_even]
  omega

theorem eq_of_parity (v : Bool) (c : Nat) (h : v = (c % 2 == 1)) : ind v + (c : Rat) = -2 * paritySlack v c := by
  rw [← toNat_add_even] at h
  rw [paritySlack, ind_toNat, ← Rat.natCast_add, Rat.neg_mul, Rat.mul_neg, Rat.neg_neg, show (2 : Rat) = ((2 : Nat) : Rat) from rfl,
    ← Rat.natCast_mul, Nat.mul_div_cancel' (Nat.dvd_of_mod_eq_zero h)]

/-- why the redundant difference rows exclude nothing: an XOR form has the right parity on them too -/
theorem xorRealises_diff (P : Prob) (sel : Nat → Nat → Bool) (h : XorRealises P sel) (j b b2 : Nat)
    (hj : j < P.F) (hb : b < P.B) (hb2 : b2 < P.B) :
    (P.fv j b != P.fv j b2) = (cntAt P sel j (fun i => P.val i b != P.val i b2) % 2 == 1) := by
  simp only [h j _ hj hb, h j _ hj hb2, cntAt, ← List.countP_eq_length_filter, ← xorl_countP, ← xorl_bne]
  exact xorl_congr fun i _ => (Bool.and_xor_distrib_right ..).symm

/-- only the rows unfolded: their slacks stand in the way of an iff with `XorRealises` as in `sopFeasible_iff` -/
theorem esopFeasible_iff (P : Prob) (σ : Var → Rat) : EsopFeasible P σ ↔ Base P σ ∧
    (∀ j, j < P.F → ∀ b, b < P.B → (valueCon P j b).holds σ) ∧
    (∀ j, j < P.F → ∀ b, b < P.B → ∀ fl, fl < P.nv → (diffCon P j b fl).holds σ) := by
  simp only [EsopFeasible, esopCons, List.forall_mem_append, List.forall_mem_map, List.forall_mem_flatMap,
    mem_rangeF, mem_rangeK, mem_rangeB, List.mem_range, and_assoc, Base, joinCon_holds, coverCon_holds]

/-- the same for `EsopModeler` -/
theorem esop_sound (P : Prob) (σ : Var → Rat) (h : EsopFeasible P σ)
    (hw : ∀ i, i < P.K → 0 ≤ P.w i) (hj : 0 ≤ P.join) :
    XorRealises P (decode σ) ∧ cost P (decode σ) ≤ objective P σ := by
  obtain ⟨hb, hv, _⟩ := (esopFeasible_iff P σ).mp h
  refine ⟨fun j b hjF hbB => ?_, cost_le_objective P σ hb hw hj⟩
  have := (parityCon_holds σ j _ _ _).mp (hv j hjF b hbB)
  rw [sum_x_eq hb.1 hjF] at this
  obtain ⟨z, hz⟩ := hb.1.2.2.2.1 j b
  exact parity_of_eq _ _ z (hz ▸ this)

/-- the `sl` of `encode` for the ESOP programme -/
def slackOf (P : Prob) (sel : Nat → Nat → Bool) : Var → Rat
  | .sv j b => paritySlack (P.fv j b) (cntAt P sel j (fun i => P.val i b))
  | .sd j b fl => paritySlack (P.fv j b != P.fv j (b ^^^ 2 ^ fl)) (cntAt P sel j (fun i => P.val i b != P.val i (b ^^^ 2 ^ fl)))
  | _ => 0

/-- the redundant difference rows included -/
theorem esop_complete (P : Prob) (sel : Nat → Nat → Bool) (h : XorRealises P sel) :
    ∃ σ, EsopFeasible P σ ∧ objective P σ = cost P sel ∧ ∀ i j, decode σ i j = sel i j := by
  have hb := encode_base P sel (slackOf P sel) (fun _ _ => isInt_paritySlack _ _) (fun _ _ _ => isInt_paritySlack _ _)
  refine ⟨_, (esopFeasible_iff P _).mpr ⟨hb, fun j hj b hbB => ?_, fun j hj b hbB fl hfl => ?_⟩, encode_objective P sel _,
    fun i j => by rw [decode_encode]⟩
  · rw [valueCon, parityCon_holds, sum_x_eq hb.1 hj, decode_encode]
    exact eq_of_parity _ _ (h j b hj hbB)
  · rw [diffCon, parityCon_holds, sum_x_eq hb.1 hj, decode_encode]
    exact eq_of_parity _ _ (xorRealises_diff P sel h j b _ hj hbB
      (xor_lt_two_pow_of_lt hbB hfl))

theorem esop_optimal (P : Prob) (σ : Var → Rat) (hf : EsopFeasible P σ)
    (hopt : ∀ σ', EsopFeasible P σ' → objective P σ ≤ objective P σ')
    (hw : ∀ i, i < P.K → 0 ≤ P.w i) (hj : 0 ≤ P.join) :
    XorRealises P (decode σ) ∧ ∀ sel, XorRealises P sel → cost P (decode σ) ≤ cost P sel :=
  optimal_of_sound_complete (fun σ h => esop_sound P σ h hw hj)
    (fun sel h => (esop_complete P sel h).imp fun _ h => ⟨h.1, h.2.1⟩) σ hf hopt

section probOf
variable {terms : List Term} {fs : List Lut} {A X J : Int}

theorem probOf_val {i : Nat} (hi : i < terms.length) (b : Nat) : (probOf terms fs A X J).val i b = terms[i].value b := by
  show (terms[i]?.map (·.value b)).getD false = _
  rw [List.getElem?_eq_getElem hi]; rfl

theorem probOf_fv {j : Nat} (hj : j < fs.length) (b : Nat) : (probOf terms fs A X J).fv j b = getBit fs[j].t b := by
  show (fs[j]?.map (fun l => getBit l.t b)).getD false = _
  rw [List.getElem?_eq_getElem hj]; rfl

theorem probOf_ok {i j : Nat} (hi : i < terms.length) (hj : j < fs.length) :
    (probOf terms fs A X J).ok i j = terms[i].impliesLut fs[j] := by
  simp only [probOf, List.getElem?_eq_getElem hi, List.getElem?_eq_getElem hj]

theorem probOf_w {i : Nat} (hi : i < terms.length) : (probOf terms fs A X J).w i = terms[i].cost A X := by
  show (terms[i]?.map (Term.cost A X)).getD 0 = _
  rw [List.getElem?_eq_getElem hi]; rfl

/-- `probOf.nv` and `esopTerms` take the number of variables from the first function; `check()` asserts the rest agree -/
theorem firstNumVars_eq {n0 : Nat} (hn : ∀ l ∈ fs, l.n = n0) (hne : fs ≠ []) : (fs.head?.map (·.n)).getD 0 = n0 := by
  cases fs with
  | nil => exact absurd rfl hne
  | cons l r => exact hn l (by simp)

theorem probOf_B {n0 : Nat} (hn : ∀ l ∈ fs, l.n = n0) (hne : fs ≠ []) : (probOf terms fs A X J).B = 2 ^ n0 :=
  congrArg (2 ^ ·) (firstNumVars_eq hn hne)

theorem probOf_w_nonneg (h : ∀ t ∈ terms, 0 ≤ t.cost A X) (i : Nat) (hi : i < (probOf terms fs A X J).K) :
    0 ≤ (probOf terms fs A X J).w i := by
  rw [probOf_w hi]
  exact h _ (List.getElem_mem hi)

theorem term_impliesLut_iff (t : Term) (l : Lut) :
    t.impliesLut l = true ↔ ∀ m, m < 2 ^ l.n → t.value m = true → getBit l.t m = true := by
  cases t with
  | cube c => exact VoluteModel.Props.C12.impliesLut_iff c l
  | ecube e => exact VoluteModel.Props.C13.impliesLut_iff e l

theorem orRealises_probOf {sel : Nat → Nat → Bool} : OrRealises (probOf terms fs A X J) sel ↔
    (∀ i j (hi : i < terms.length) (hj : j < fs.length), sel i j = true → terms[i].impliesLut fs[j] = true) ∧
    ∀ j b (hj : j < fs.length), b < (probOf terms fs A X J).B → getBit fs[j].t b = true →
      ∃ i, ∃ hi : i < terms.length, sel i j = true ∧ terms[i].value b = true := by
  refine and_congr ?_ ?_
  · exact forall_congr' fun i => forall_congr' fun j => forall_congr' fun hi => forall_congr' fun hj => by
      rw [probOf_ok hi hj]
  · refine forall_congr' fun j => forall_congr' fun b => forall_congr' fun hj => forall_congr' fun _ => ?_
    rw [probOf_fv hj]
    refine imp_congr_right fun _ => exists_congr fun i => ⟨fun ⟨hi, hs, hv⟩ => ⟨hi, hs, ?_⟩, fun ⟨hi, hs, hv⟩ => ⟨hi, hs, ?_⟩⟩
    · rwa [probOf_val hi] at hv
    · rwa [probOf_val hi]

end probOf

theorem term_cost_nonneg (t : Term) (A X : Int) (hA : 0 ≤ A) (hX : ∀ e, t = Term.ecube e → 0 ≤ X) : 0 ≤ t.cost A X := by
  cases t with
  | cube c => exact Int.mul_nonneg (Int.natCast_nonneg _) hA
  | ecube e => exact Int.mul_nonneg (Int.natCast_nonneg _) (hX e rfl)

theorem sopTerms_cost_nonneg (fs : List Lut) (A X : Int) (hA : 0 ≤ A) : ∀ t ∈ sopTerms fs X, 0 ≤ t.cost A X := by
  intro t ht
  refine term_cost_nonneg t A X hA fun e he => ?_
  subst he
  by_cases hX : X ≥ 0
  · exact hX
  · simp [sopTerms, hX] at ht

theorem esopTerms_cost_nonneg (fs : List Lut) (A X : Int) (hA : 0 ≤ A) : ∀ t ∈ esopTerms fs, 0 ≤ t.cost A X := by
  intro t ht
  obtain ⟨c, _, rfl⟩ := List.mem_map.mp ht
  exact term_cost_nonneg _ A X hA nofun

/-- C18, `optimize_sop_mip` / `optimize_sopes_mip`, given an optimal solution of their programme: every
    output is the OR of the terms selected for it, all implicants, at minimum cost over the candidates -/
theorem sop_mip_spec (fs : List Lut) (A X O : Int) (hA : 1 ≤ A) (hO : 1 ≤ O) (n0 : Nat) (hn : ∀ l ∈ fs, l.n = n0)
    (σ : Var → Rat) (hf : SopFeasible (sopProb fs A X O) σ)
    (hopt : ∀ σ', SopFeasible (sopProb fs A X O) σ' → objective (sopProb fs A X O) σ ≤ objective (sopProb fs A X O) σ') :
    (∀ j (hj : j < fs.length) b, b < 2 ^ n0 →
      (getBit fs[j].t b = true ↔ ∃ i, ∃ hi : i < (sopTerms fs X).length, decode σ i j = true ∧ (sopTerms fs X)[i].value b = true)) ∧
    (∀ i j (hi : i < (sopTerms fs X).length) (hj : j < fs.length), decode σ i j = true → (sopTerms fs X)[i].impliesLut fs[j] = true) ∧
    (∀ sel, OrRealises (sopProb fs A X O) sel → cost (sopProb fs A X O) (decode σ) ≤ cost (sopProb fs A X O) sel) := by
  obtain ⟨hr, hmin⟩ := sop_optimal _ σ hf hopt
    (probOf_w_nonneg (sopTerms_cost_nonneg fs A X (Int.le_of_lt hA))) (Int.le_of_lt hO)
  obtain ⟨himp, hcov⟩ := orRealises_probOf.mp hr
  refine ⟨fun j hj b hb => ⟨hcov j b hj ?_, fun ⟨i, hi, hd, hv⟩ => ?_⟩, himp, hmin⟩
  · rwa [probOf_B hn (List.ne_nil_of_length_pos (Nat.zero_lt_of_lt hj))]
  · exact (term_impliesLut_iff _ _).mp (himp i j hi hj hd) b (by rwa [hn _ (List.getElem_mem hj)]) hv

theorem count_solution {terms : List Term} {fs : List Lut} {A X J : Int} {σ : Var → Rat} {j b : Nat} :
    (solution terms σ j).countP (·.value b) =
      cntAt (probOf terms fs A X J) (decode σ) j (fun i => (probOf terms fs A X J).val i b) := by
  rw [solution, List.countP_filterMap, List.countP_filter, List.countP_eq_length_filter]
  rfl

/-- the same for `optimize_esop_mip`: the XOR of the selected cubes, as `Esop::value` folds them -/
theorem esop_mip_spec (fs : List Lut) (A X : Int) (hA : 1 ≤ A) (hX : 1 ≤ X) (n0 : Nat) (hn : ∀ l ∈ fs, l.n = n0)
    (σ : Var → Rat) (hf : EsopFeasible (esopProb fs A X) σ)
    (hopt : ∀ σ', EsopFeasible (esopProb fs A X) σ' → objective (esopProb fs A X) σ ≤ objective (esopProb fs A X) σ') :
    (∀ j (hj : j < fs.length) b, b < 2 ^ n0 →
      getBit fs[j].t b = ((solution (esopTerms fs) σ j).map (·.value b)).foldl (fun a v => a != v) false) ∧
    (∀ sel, XorRealises (esopProb fs A X) sel → cost (esopProb fs A X) (decode σ) ≤ cost (esopProb fs A X) sel) := by
  obtain ⟨hr, hmin⟩ := esop_optimal _ σ hf hopt
    (probOf_w_nonneg (esopTerms_cost_nonneg fs A X (Int.le_of_lt hA))) (Int.le_of_lt hX)
  refine ⟨fun j hj b hb => ?_, hmin⟩
  have hB : (esopProb fs A X).B = 2 ^ n0 := probOf_B hn (List.ne_nil_of_length_pos (Nat.zero_lt_of_lt hj))
  have := hr j b hj (hB ▸ hb)
  rw [esopProb, probOf_fv hj, ← count_solution] at this
  rw [this, List.foldl_map]
  exact (xorl_countP ..).symm

/-- the OR form of `sop_mip_spec`, as `Sop::value` / `Soes::value` fold the selected terms -/
theorem sop_mip_value (fs : List Lut) (A X O : Int) (hA : 1 ≤ A) (hO : 1 ≤ O) (n0 : Nat) (hn : ∀ l ∈ fs, l.n = n0)
    (σ : Var → Rat) (hf : SopFeasible (sopProb fs A X O) σ)
    (hopt : ∀ σ', SopFeasible (sopProb fs A X O) σ' → objective (sopProb fs A X O) σ ≤ objective (sopProb fs A X O) σ')
    (j : Nat) (hj : j < fs.length) (b : Nat) (hb : b < 2 ^ n0) :
    getBit fs[j].t b = (solution (sopTerms fs X) σ j).any (·.value b) := by
  rw [Bool.eq_iff_iff, (sop_mip_spec fs A X O hA hO n0 hn σ hf hopt).1 j hj b hb, solution, List.any_filterMap,
    List.any_filter, List.any_eq_true]
  constructor
  · rintro ⟨i, hi, hd, hv⟩
    exact ⟨i, List.mem_range.mpr hi, by simp [hd, hi, hv]⟩
  · rintro ⟨i, hi, h⟩
    have hi := List.mem_range.mp hi
    simp only [List.getElem?_eq_getElem hi, Bool.and_eq_true] at h
    exact ⟨i, hi, h⟩

/-- non-vacuity, SOP programme only: that of `optimize_sop_mip(&[x0], 1, 1)` has an optimal solution,
    so the hypotheses of `sop_mip_spec` can be met -/
example : ∃ σ, SopFeasible (sopProb [⟨1, #[0x2#64]⟩] 1 (-1) 1) σ ∧
    ∀ σ', SopFeasible (sopProb [⟨1, #[0x2#64]⟩] 1 (-1) 1) σ' →
      objective (sopProb [⟨1, #[0x2#64]⟩] 1 (-1) 1) σ ≤ objective (sopProb [⟨1, #[0x2#64]⟩] 1 (-1) 1) σ' := by
  -- the single candidate is the cube x0, selected for the single output; this form costs nothing
  have hK : (sopProb [⟨1, #[0x2#64]⟩] 1 (-1) 1).K = 1 := by decide +kernel
  have hr : OrRealises (sopProb [⟨1, #[0x2#64]⟩] 1 (-1) 1) (fun _ _ => true) := by
    refine ⟨fun i j hi hj _ => ?_, fun j b hj hb hf => ⟨0, by decide +kernel, rfl, ?_⟩⟩
    · obtain rfl : i = 0 := by omega
      obtain rfl : j = 0 := by have : j < 1 := hj; omega
      decide +kernel
    · obtain rfl : j = 0 := by have : j < 1 := hj; omega
      have : b < 2 := hb
      obtain rfl | rfl : b = 0 ∨ b = 1 := by omega
      · exact absurd hf (by decide +kernel)
      · decide +kernel
  have hc : cost (sopProb [⟨1, #[0x2#64]⟩] 1 (-1) 1) (fun _ _ => true) = 0 := by decide +kernel
  obtain ⟨σ, hf, ho, _⟩ := sop_complete _ _ hr
  refine ⟨σ, hf, fun σ' hf' => ?_⟩
  have hw := probOf_w_nonneg (fs := [⟨1, #[0x2#64]⟩]) (J := 1) (sopTerms_cost_nonneg [⟨1, #[0x2#64]⟩] 1 (-1) (by decide))
  rw [ho, hc]
  exact Rat.le_trans (cost_nonneg _ _ hw (by decide)) (sop_sound _ σ' hf' hw (by decide)).2
end VoluteModel.Mip
