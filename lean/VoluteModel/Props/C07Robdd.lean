import VoluteModel.Props.C07

/-!
# C07, continued: `bdd_complexity` is the node count of the shared complement-edge ROBDD

`Robdd.shared_count` counts the non-literal nodes level by level from duplicate-free lists of the kept
sub-functions; `levelNums` is such a list (`mem_levelNums`), and `table_complexity` adds up its lengths.
-/

namespace VoluteModel.Props.C07
open Robdd

/-- C07, one function, levels up to 5: the kept chunks, as numbers, are the sub-functions with a
    non-literal node.  This and the next are the two cases of `mem_levelNums` with `Kept1` written out,
    that is `keptSmall_toNat` and `keptLarge_toNat` -/
theorem small_glue1 (n v : Nat) (hv5 : v ≤ 5) (hvn : v < n) (f : Array W) (hf : WF n f) (g : Nat) :
    (∃ x, KeptSmall f v x ∧ x.toNat = g) ↔
      ∃ a, a < 2 ^ (n - 1 - v) ∧ g = norm (v + 1) (sub v a (toNatLE f.toList)) ∧ dep v g ∧ ¬ litTable v g :=
  keptSmall_toNat n v hv5 hvn f hf g

/-- the same from level 6 on, for groups of words -/
theorem large_glue1 (n k : Nat) (hvn : k + 6 < n) (f : Array W) (hf : WF n f) (g : Nat) :
    (∃ x, KeptLarge f (k + 6) x ∧ toNatLE x = g) ↔
      ∃ a, a < 2 ^ (n - 1 - (k + 6)) ∧ g = norm (k + 6 + 1) (sub (k + 6) a (toNatLE f.toList)) ∧
        dep (k + 6) g ∧ ¬ litTable (k + 6) g :=
  keptLarge_toNat n k hvn f hf g

/-- **C07, the node count**: `bdd_complexity` of functions of n variables is the number of non-literal
    nodes of their shared complement-edge ROBDD (`Lemmas/Robdd.lean`), given as a duplicate-free list of
    the node subterms of the BDDs `mk n (norm n f)`; f as a number, bit m its value on assignment m -/
theorem bdd_is_shared_robdd (n : Nat) (F : List Lut) (hF : ∀ l ∈ F, WF n l.t) :
    ∃ L : List B, L.Nodup ∧
      (∀ b, b ∈ L ↔ SharedNode n (F.map (fun l => toNatLE l.t.toList)) b) ∧
      Stat.bddComplexity n F = some L.length := by
  have hsz : ∀ l ∈ F, l.t.size = tableSize n := fun l hl => (hF l hl).1
  have hts : ∀ t ∈ F.map (fun l => toNatLE l.t.toList), t < P n := by
    intro t ht
    obtain ⟨l, hl, rfl⟩ := List.mem_map.mp ht
    exact toNatLE_lt_of_WF (hF l hl)
  have hmem : ∀ v, 1 ≤ v → v < n → ∀ g, g ∈ levelNums (F.flatMap (fun l => l.t.toList)).toArray v ↔
      Kept n v (F.map (fun l => toNatLE l.t.toList)) g := by
    intro v _ hn g
    rw [mem_levelNums_flat n F hsz v hn]
    -- `Kept` is `Kept1` of some member, written out
    show _ ↔ ∃ t ∈ F.map (fun l => toNatLE l.t.toList), Kept1 n v t g
    constructor
    · rintro ⟨l, hl, hg⟩
      exact ⟨_, List.mem_map.mpr ⟨l, hl, rfl⟩, (mem_levelNums n v hn l.t (hF l hl) g).mp hg⟩
    · rintro ⟨t, ht, hk⟩
      obtain ⟨l, hl, rfl⟩ := List.mem_map.mp ht
      exact ⟨l, hl, (mem_levelNums n v hn l.t (hF l hl) g).mpr hk⟩
  obtain ⟨nd, mem, len⟩ := shared_count n _ hts _ (fun v _ _ => levelNums_nodup _ v) hmem
  refine ⟨_, nd, mem, ?_⟩
  unfold Stat.bddComplexity
  rw [flatComplexity_eq_sum n F hsz, len]

/-- the same for the dynamic entry point -/
theorem dyn_bdd_is_shared_robdd (n : Nat) (l0 : Lut) (ls : List Lut) (hF : ∀ l ∈ l0 :: ls, l.n = n ∧ WF n l.t) :
    ∃ L : List B, L.Nodup ∧
      (∀ b, b ∈ L ↔ SharedNode n ((l0 :: ls).map (fun l => toNatLE l.t.toList)) b) ∧
      Dyn.bddComplexity (l0 :: ls) = some L.length := by
  rw [← stat_eq_dyn n l0 ls (fun l hl => (hF l hl).1)]
  exact bdd_is_shared_robdd n (l0 :: ls) (fun l hl => (hF l hl).2)

/-- the BDD side on majority of three variables (0xe8): `mk` gives three distinct non-literal nodes -/
example : ((nodes (mk 3 (norm 3 0xe8))).filter (fun b => !isLit b)).eraseDups.length = 3 := by decide

end VoluteModel.Props.C07
