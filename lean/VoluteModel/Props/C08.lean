import VoluteModel.Model.Api
import VoluteModel.Lemmas.Cmp
import VoluteModel.Lemmas.Guards

/-!
# C08 - ordering is numeric order of the table; all_functions enumerates it fully

The order is that of the pairs (number of variables, table as a number), the successor is `+1` on that
number, so the iterator yields number `k` at call `k`.  `LutIterator` implements `next` only: `nth`, `step_by`,
`count`, `last` are the library's defaults, modelled as `Dyn.Iter.advance / nth / stepBy / rest`.
-/

namespace VoluteModel.Props.C08

/-- the table read as a `2^n`-bit unsigned number -/
def toNat (l : Lut) : Nat := toNatLE l.t.toList

/-- so the most significant bit is the value on the all-ones assignment -/
theorem toNat_testBit (l : Lut) (m : Nat) : (toNat l).testBit m = l.eval m :=
  toNatLE_testBit_array l.t m

theorem toNat_lt_of_WF (l : Lut) (hl : l.WF) : toNat l < 2 ^ (2 ^ l.n) := toNatLE_lt_of_WF hl

/-- `Ord for Lut`: first the number of variables, then the number -/
theorem cmp_spec (a b : Lut) (ha : a.WF) (hb : b.WF) :
    Dyn.cmp a b = if a.n ≠ b.n then compare a.n b.n else compare (toNat a) (toNat b) := by
  unfold Dyn.cmp
  by_cases h : a.n = b.n
  · have hs : a.t.size = b.t.size := by rw [ha.1, hb.1, h]
    simp [h, cmpTables_eq a.t b.t hs, toNat]
  · simp [h]

/-- `Ord for StaticLut` -/
theorem stat_cmp_spec (a b : Lut) (ha : a.WF) (hb : b.WF) (h : a.n = b.n) :
    Stat.cmp a b = compare (toNat a) (toNat b) :=
  cmpTables_eq a.t b.t (by rw [ha.1, hb.1, h])

/-! C08, total order: `Equal` exactly for equal tables, the swap law, transitivity; all read off `cmp_then`, the
order as a lexicographic product. -/

theorem cmp_then (a b : Lut) (ha : a.WF) (hb : b.WF) :
    Dyn.cmp a b = (compare a.n b.n).then (compare (toNat a) (toNat b)) := by
  rw [cmp_spec a b ha hb]
  rcases Nat.lt_trichotomy a.n b.n with h | h | h
  · rw [if_pos (Nat.ne_of_lt h), Nat.compare_eq_lt.mpr h]; rfl
  · rw [if_neg fun h' => h' h, Nat.compare_eq_eq.mpr h]; rfl
  · rw [if_pos (Nat.ne_of_gt h), Nat.compare_eq_gt.mpr h]; rfl

theorem cmp_eq_iff (a b : Lut) (ha : a.WF) (hb : b.WF) : Dyn.cmp a b = .eq ↔ a = b := by
  rw [cmp_then a b ha hb, Ordering.then_eq_eq, Nat.compare_eq_eq, Nat.compare_eq_eq]
  exact ⟨fun h => Lut.ext_toNatLE ha hb h.1 h.2, fun h => h ▸ ⟨rfl, rfl⟩⟩

theorem cmp_antisymm (a b : Lut) (ha : a.WF) (hb : b.WF) : Dyn.cmp b a = (Dyn.cmp a b).swap := by
  rw [cmp_then a b ha hb, cmp_then b a hb ha, Ordering.swap_then, Nat.compare_swap, Nat.compare_swap]

theorem cmp_trans (a b c : Lut) (ha : a.WF) (hb : b.WF) (hc : c.WF)
    (h1 : Dyn.cmp a b = .lt) (h2 : Dyn.cmp b c = .lt) : Dyn.cmp a c = .lt := by
  rw [cmp_then _ _ ‹_› ‹_›, Ordering.then_eq_lt, Nat.compare_eq_lt, Nat.compare_eq_eq, Nat.compare_eq_lt] at h1 h2 ⊢
  rcases h1 with h1 | ⟨e1, l1⟩ <;> rcases h2 with h2 | ⟨e2, l2⟩
  · exact .inl (Nat.lt_trans h1 h2)
  · exact .inl (e2 ▸ h1)
  · exact .inl (e1 ▸ h2)
  · exact .inr ⟨e1.trans e2, Nat.lt_trans l1 l2⟩

/-- the form in which `nextList_wrap` states the successor, read as `%` and the no-wrap flag -/
theorem succ_of_wrap {M x x' : Nat} {ok : Bool} (hx' : x' < M) (h : x' + (if ok then 0 else M) = x + 1) :
    x' = (x + 1) % M ∧ ok = decide (x + 1 < M) := by
  cases ok
  · rw [← h, if_neg (by decide), Nat.add_mod_right, Nat.mod_eq_of_lt hx']
    exact ⟨rfl, (decide_eq_false (Nat.not_lt.mpr (Nat.le_add_left _ _))).symm⟩
  · rw [← h, if_pos rfl, Nat.add_zero, Nat.mod_eq_of_lt hx']
    exact ⟨rfl, (decide_eq_true hx').symm⟩

/-- one word: `2^b` is added back when the masked increment became 0 -/
theorem succ_word (w mask : W) (b : Nat) (hb : b ≤ 64) (hm : mask.toNat = 2 ^ b - 1) (hw : w.toNat < 2 ^ b) :
    ((w + 1#64) &&& mask).toNat + (if (w + 1#64) &&& mask != 0#64 then 0 else 2 ^ b) = w.toNat + 1 := by
  have e : ((w + 1#64) &&& mask).toNat = (w.toNat + 1) % 2 ^ b := by
    rw [BitVec.toNat_and, hm, Nat.and_two_pow_sub_one_eq_mod, BitVec.toNat_add,
      Nat.mod_mod_of_dvd _ (Nat.pow_dvd_pow 2 hb)]; rfl
  by_cases hlt : w.toNat + 1 < 2 ^ b
  · rw [Nat.mod_eq_of_lt hlt] at e
    have : (w + 1#64) &&& mask ≠ 0#64 := fun h0 => by rw [h0] at e; exact Nat.succ_ne_zero _ e.symm
    rw [e, if_pos (bne_iff_ne.mpr this)]
  · have hP : w.toNat + 1 = 2 ^ b := Nat.le_antisymm hw (Nat.le_of_not_lt hlt)
    rw [hP, Nat.mod_self] at e
    rw [show (w + 1#64) &&& mask = 0#64 from BitVec.eq_of_toNat_eq e, hP]
    exact Nat.zero_add _

/-- words of `b` bits; `hc` for the reason given at `flatMap_digits` (Lemmas/TextLemmas.lean) -/
theorem nextList_wrap (mask : W) (b : Nat) (hb : b ≤ 64) (hm : mask.toNat = 2 ^ b - 1) (ws : List W)
    (hfit : ∀ w ∈ ws, w.toNat < 2 ^ b) (hc : b = 64 ∨ ws.length ≤ 1) :
    toNatLE (nextList mask ws).1 + (if (nextList mask ws).2 then 0 else 2 ^ (b * ws.length)) = toNatLE ws + 1 := by
  induction ws with
  | nil => rfl
  | cons w ws ih =>
    have sw := succ_word w mask b hb hm (hfit w List.mem_cons_self)
    rw [nextList]
    cases hnz : (w + 1#64) &&& mask != 0#64
    · -- the word became zero, so it was `2^b - 1`: the carry goes on
      rw [bne_eq_false_iff_eq.mp hnz, if_neg (by decide), show (0#64 : W).toNat = 0 from rfl, Nat.zero_add] at sw
      rw [bne_eq_false_iff_eq.mp hnz, if_neg (by decide), List.length_cons, Nat.mul_succ, Nat.pow_add, Nat.mul_comm]
      rcases hc with rfl | hc
      · -- `w + 1 = 2^64`: the equation of the rest, times `2^64`
        rw [toNatLE, toNatLE, show (0#64 : W).toNat = 0 from rfl, Nat.zero_add, Nat.add_right_comm, ← sw,
          Nat.add_comm (2 ^ 64), ← Nat.mul_succ, Nat.succ_eq_add_one, ← ih (fun x hx => hfit x (List.mem_cons_of_mem _ hx)) (Or.inl rfl),
          Nat.mul_add]
        cases (nextList mask ws).2 <;> rfl
      · cases ws with
        | nil => rw [List.length_nil, Nat.mul_zero, Nat.pow_zero, Nat.mul_one, sw, Nat.add_comm]; rfl
        | cons _ _ => exact absurd (Nat.le_of_succ_le_succ hc) (Nat.not_succ_le_zero _)
    · rw [hnz, if_pos rfl, Nat.add_zero] at sw
      rw [if_pos rfl, if_pos rfl, toNatLE, toNatLE, sw, Nat.add_zero, Nat.add_right_comm]

theorem nextList_length (mask : W) (ws : List W) : (nextList mask ws).1.length = ws.length := by
  induction ws with
  | nil => rfl
  | cons w ws ih => rw [nextList]; split <;> simp [ih]

theorem nextList_mask (mask : W) (ws : List W) (h : ∀ w ∈ ws, w &&& ~~~ mask = 0#64) :
    ∀ w ∈ (nextList mask ws).1, w &&& ~~~ mask = 0#64 := by
  have hm : ∀ x : W, x &&& mask &&& ~~~ mask = 0#64 := fun x => by
    rw [BitVec.and_assoc, BitVec.and_not_self]; exact BitVec.and_zero
  induction ws with
  | nil => exact h
  | cons w ws ih =>
    have ht := (List.forall_mem_cons.mp h).2
    rw [nextList]
    split
    · exact List.forall_mem_cons.mpr ⟨hm _, ht⟩
    · exact List.forall_mem_cons.mpr ⟨hm _, ih ht⟩

theorem nextInplace_spec {n : Nat} {t : Array W} (h : WF n t) :
    toNatLE (nextInplace n t).1.toList = (toNatLE t.toList + 1) % 2 ^ (2 ^ n) ∧
    (nextInplace n t).2 = decide (toNatLE t.toList + 1 < 2 ^ (2 ^ n)) ∧ WF n (nextInplace n t).1 := by
  have hwf : WF n (nextInplace n t).1 := (WF_iff_mem _ _).mpr
    ⟨by simp [nextInplace, nextList_length, h.1], nextList_mask _ _ ((WF_iff_mem _ _).mp h).2⟩
  obtain ⟨hbits, hc⟩ := wordBits_split n
  have hw := nextList_wrap _ _ (Nat.min_le_right _ _) (numVarsMask_toNat n) t.toList (fun w => WF_word_lt h)
    (by rw [Array.length_toList, h.1]; exact hc)
  rw [Array.length_toList, h.1, hbits] at hw
  obtain ⟨h1, h2⟩ := succ_of_wrap (toNatLE_lt_of_WF hwf) hw
  exact ⟨h1, h2, hwf⟩

/-- C08, successor step: `+1` modulo 2^(2^n), every carry across words included; the flag says "did not wrap" -/
theorem next_spec (l : Lut) (hl : l.WF) :
    toNat (Dyn.verifNext l).1 = (toNat l + 1) % 2 ^ (2 ^ l.n) ∧
    (Dyn.verifNext l).2 = decide (toNat l + 1 < 2 ^ (2 ^ l.n)) ∧
    (Dyn.verifNext l).1.n = l.n ∧ (Dyn.verifNext l).1.WF :=
  have ⟨h1, h2, h3⟩ := nextInplace_spec hl
  ⟨h1, h2, rfl, h3⟩

/-- a carry into the second word -/
example : (⟨7, #[0xffffffffffffffff#64, 0x5#64]⟩ : Lut).WF ∧
    Dyn.verifNext ⟨7, #[0xffffffffffffffff#64, 0x5#64]⟩ = (⟨7, #[0x0#64, 0x6#64]⟩, true) := by
  constructor
  · unfold Lut.WF; decide +kernel
  · decide +kernel

/-- state of the iterator after `k` calls of `next` -/
def iterN (it : Dyn.Iter) : Nat → Dyn.Iter
  | 0 => it
  | k + 1 => (iterN it k).next.2

/-- the item returned by call number `k` (counting from 0) -/
def nthItem (n k : Nat) : Option Lut := (iterN (Dyn.allFunctions n) k).next.1

theorem advance_succ (it : Dyn.Iter) (k : Nat) : it.advance (k + 1) = (it.advance k).next.2 := by
  induction k generalizing it with
  | zero => rfl
  | succ k ih => exact ih it.next.2

theorem advance_eq_iterN (it : Dyn.Iter) (k : Nat) : it.advance k = iterN it k := by
  induction k with
  | zero => rfl
  | succ k ih => rw [advance_succ, ih]; rfl

theorem advance_add (it : Dyn.Iter) (a b : Nat) : (it.advance a).advance b = it.advance (a + b) := by
  induction b with
  | zero => rfl
  | succ b ih => rw [advance_succ, ih, ← Nat.add_assoc, advance_succ]

theorem zero_toNat (n : Nat) : toNat (Dyn.zero n) = 0 :=
  Nat.eq_of_testBit_eq fun m => by rw [toNat_testBit, Nat.zero_testBit]; exact bit_fillZero _ m

theorem next_ok (it : Dyn.Iter) (h : it.ok = true) :
    it.next = (some it.lut, ⟨(Dyn.verifNext it.lut).1, (Dyn.verifNext it.lut).2⟩) := by
  rw [Dyn.Iter.next, h]; rfl

theorem next_done (it : Dyn.Iter) (h : it.ok = false) : it.next = (none, it) := by
  rw [Dyn.Iter.next, h]; rfl

theorem advance_spec (n k : Nat) :
    ((Dyn.allFunctions n).advance k).lut.n = n ∧ ((Dyn.allFunctions n).advance k).lut.WF ∧
    ((Dyn.allFunctions n).advance k).ok = decide (k < 2 ^ (2 ^ n)) ∧
    (k < 2 ^ (2 ^ n) → toNat ((Dyn.allFunctions n).advance k).lut = k) := by
  induction k with
  | zero => exact ⟨rfl, Dyn.zero_WF n, (decide_eq_true (Nat.two_pow_pos _)).symm, fun _ => zero_toNat n⟩
  | succ k ih =>
    obtain ⟨hn, hwf, hok, hval⟩ := ih
    rw [advance_succ]
    by_cases hk : k < 2 ^ (2 ^ n)
    · obtain ⟨h1, h2, h3, h4⟩ := next_spec _ hwf
      rw [hval hk, hn] at h1 h2
      rw [next_ok _ (hok.trans (decide_eq_true hk))]
      exact ⟨h3.trans hn, h4, h2, fun h => h1.trans (Nat.mod_eq_of_lt h)⟩
    · rw [next_done _ (hok.trans (decide_eq_false hk))]
      have hk' : ¬ k + 1 < 2 ^ (2 ^ n) := fun h => hk (Nat.lt_of_succ_lt h)
      exact ⟨hn, hwf, hok.trans (by rw [decide_eq_false hk, decide_eq_false hk']), fun h => absurd h hk'⟩

theorem next_at (n p : Nat) :
    ((Dyn.allFunctions n).advance p).next = (nthItem n p, (Dyn.allFunctions n).advance (p + 1)) := by
  rw [nthItem, ← advance_eq_iterN, advance_succ]

theorem nthItem_eq (n k : Nat) :
    nthItem n k = if k < 2 ^ (2 ^ n) then some ((Dyn.allFunctions n).advance k).lut else none := by
  have hok := (advance_spec n k).2.2.1
  rw [nthItem, ← advance_eq_iterN]
  by_cases hk : k < 2 ^ (2 ^ n)
  · rw [if_pos hk, next_ok _ (hok.trans (decide_eq_true hk))]
  · rw [if_neg hk, next_done _ (hok.trans (decide_eq_false hk))]

/-- C08, iterator: call `k` yields the table of number `k` -/
theorem nthItem_lt (n k : Nat) (hk : k < 2 ^ (2 ^ n)) :
    ∃ l, nthItem n k = some l ∧ l.n = n ∧ l.WF ∧ toNat l = k :=
  have ⟨hn, hwf, _, hval⟩ := advance_spec n k
  ⟨_, by rw [nthItem_eq, if_pos hk], hn, hwf, hval hk⟩

/-- ... and `None` from call 2^(2^n) on -/
theorem nthItem_ge (n k : Nat) (hk : 2 ^ (2 ^ n) ≤ k) : nthItem n k = none := by
  rw [nthItem_eq, if_neg (Nat.not_lt.mpr hk)]

/-- every function exactly once, at the call given by its number -/
theorem every_function_once (l : Lut) (hl : l.WF) :
    nthItem l.n (toNat l) = some l ∧ ∀ k, nthItem l.n k = some l → k = toNat l := by
  have hlt := toNat_lt_of_WF l hl
  obtain ⟨l', h1, h2, h3, h4⟩ := nthItem_lt l.n (toNat l) hlt
  refine ⟨by rw [h1, Lut.ext_toNatLE h3 hl h2 h4], ?_⟩
  intro k hk
  by_cases hkl : k < 2 ^ (2 ^ l.n)
  · obtain ⟨l2, g1, _, _, g4⟩ := nthItem_lt l.n k hkl
    rw [g1] at hk
    cases hk
    exact g4.symm
  · rw [nthItem_ge l.n k (Nat.le_of_not_lt hkl)] at hk; cases hk

theorem nth_at (n a b : Nat) : ((Dyn.allFunctions n).advance a).nth b =
    (nthItem n (a + b), (Dyn.allFunctions n).advance (a + b + 1)) := by
  rw [Dyn.Iter.nth, advance_add, next_at]

/-- C08, provided methods.  `nth(b)` after `a` items: item `a + b`, the iterator left after `a + b + 1` calls;
    at or beyond the end `None`, for ever -/
theorem nth_spec (n a b : Nat) : (((Dyn.allFunctions n).advance a).nth b).1 = nthItem n (a + b) := by
  rw [nth_at]

theorem nth_state (n a b : Nat) :
    (((Dyn.allFunctions n).advance a).nth b).2 = (Dyn.allFunctions n).advance (a + b + 1) := by
  rw [nth_at]

theorem nth_inside (n a b : Nat) (h : a + b < 2 ^ (2 ^ n)) :
    ∃ l, (((Dyn.allFunctions n).advance a).nth b).1 = some l ∧ l.n = n ∧ l.WF ∧ toNat l = a + b := by
  rw [nth_spec]; exact nthItem_lt n (a + b) h

theorem nth_beyond (n a b : Nat) (h : 2 ^ (2 ^ n) ≤ a + b) :
    (((Dyn.allFunctions n).advance a).nth b).1 = none ∧
    ∀ j, ((((Dyn.allFunctions n).advance a).nth b).2.advance j).next.1 = none := by
  refine ⟨by rw [nth_spec]; exact nthItem_ge n _ h, ?_⟩
  intro j
  rw [nth_state, advance_add, next_at]
  exact nthItem_ge n _ (Nat.le_trans h (Nat.le_trans (Nat.le_add_right _ 1) (Nat.le_add_right _ j)))

theorem stepBy_later (n step cnt p k : Nat) (hs : 1 ≤ step) (hk : k < cnt) :
    (((Dyn.allFunctions n).advance (p + 1)).stepBy step cnt false)[k]? =
      some (nthItem n (p + (k + 1) * step)) := by
  induction cnt generalizing p k with
  | zero => exact absurd hk (Nat.not_lt_zero k)
  | succ cnt ih =>
    rw [Dyn.Iter.stepBy, if_neg (by decide), nth_at, Nat.add_assoc, Nat.add_sub_cancel' hs]
    cases k with
    | zero => rw [List.getElem?_cons_zero, Nat.zero_add, Nat.one_mul]
    | succ k =>
      rw [List.getElem?_cons_succ, ih (p + step) k (Nat.lt_of_succ_lt_succ hk), Nat.succ_mul (k + 1), Nat.add_assoc, Nat.add_comm step]

/-- `step_by(step)`: poll `k` is item `a + k * step` -/
theorem stepBy_spec (n a step cnt k : Nat) (hs : 1 ≤ step) (hk : k < cnt) :
    (((Dyn.allFunctions n).advance a).stepBy step cnt true)[k]? = some (nthItem n (a + k * step)) := by
  obtain ⟨cnt, rfl⟩ := Nat.exists_eq_succ_of_ne_zero (Nat.ne_of_gt (Nat.zero_lt_of_lt hk))
  rw [Dyn.Iter.stepBy, if_pos rfl, next_at]
  cases k with
  | zero => rw [List.getElem?_cons_zero, Nat.zero_mul]; rfl
  | succ k => rw [List.getElem?_cons_succ, stepBy_later n step cnt a k hs (Nat.lt_of_succ_lt_succ hk)]

/-- the remaining items as the items of the remaining states: what `count`, `last`, `fold`, `min`, `max` consume -/
theorem rest_eq (n fuel p : Nat) :
    (((Dyn.allFunctions n).advance p).rest fuel).1 =
      (List.range' p (min fuel (2 ^ (2 ^ n) - p))).map (fun k => ((Dyn.allFunctions n).advance k).lut) := by
  induction fuel generalizing p with
  | zero => rw [Dyn.Iter.rest, Nat.zero_min]; rfl
  | succ fuel ih =>
    rw [Dyn.Iter.rest, next_at, nthItem_eq]
    by_cases hp : p < 2 ^ (2 ^ n)
    · rw [if_pos hp, ← Nat.sub_add_cancel (Nat.sub_pos_of_lt hp), Nat.add_min_add_right, ← Nat.sub_add_eq,
        List.range'_succ, List.map_cons, ← ih]
    · rw [if_neg hp, Nat.sub_eq_zero_of_le (Nat.le_of_not_lt hp), Nat.min_zero]; rfl

/-- what is left after `p` calls, in order, by item number (`count_spec`, `last_spec` read the state form
    `rest_eq`, which is the one to induct on) -/
theorem rest_spec (n fuel p : Nat) :
    (((Dyn.allFunctions n).advance p).rest fuel).1 =
      (List.range (min fuel (2 ^ (2 ^ n) - p))).filterMap (fun j => nthItem n (p + j)) := by
  rw [rest_eq, List.range'_eq_map_range, List.map_map]
  refine (filterMap_eq_map_of fun j hj => ?_).symm
  have hj := Nat.lt_of_lt_of_le (List.mem_range.mp hj) (Nat.min_le_right _ _)
  rw [nthItem_eq, if_pos (Nat.add_lt_of_lt_sub' hj)]; rfl

/-- `count()` -/
theorem count_spec (n fuel p : Nat) (hf : 2 ^ (2 ^ n) ≤ fuel) :
    (((Dyn.allFunctions n).advance p).rest fuel).1.length = 2 ^ (2 ^ n) - p := by
  rw [rest_eq, List.length_map, List.length_range', Nat.min_eq_right (Nat.le_trans (Nat.sub_le _ _) hf)]

/-- `last()`: item `2^(2^n) - 1`, by `nthItem_lt` the constant one -/
theorem last_spec (n fuel p : Nat) (hf : 2 ^ (2 ^ n) ≤ fuel) (hp : p < 2 ^ (2 ^ n)) :
    (((Dyn.allFunctions n).advance p).rest fuel).1.getLast? = nthItem n (2 ^ (2 ^ n) - 1) := by
  rw [rest_eq, List.getLast?_map, List.getLast?_range', Nat.min_eq_right (Nat.le_trans (Nat.sub_le _ _) hf),
    if_neg (Nat.sub_ne_zero_of_lt hp), Nat.add_sub_cancel' (Nat.le_of_lt hp), nthItem_eq,
    if_pos (Nat.sub_one_lt (Nat.ne_of_gt (Nat.two_pow_pos _)))]
  rfl

/-- one variable: a jump inside and one over the end -/
example : (((Dyn.allFunctions 1).advance 1).nth 2).1 = some ⟨1, #[3#64]⟩ ∧
    (((Dyn.allFunctions 1).advance 1).nth 3).1 = none := by decide +kernel

end VoluteModel.Props.C08
