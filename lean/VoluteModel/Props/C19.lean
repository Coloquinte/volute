import VoluteModel.Model.Api
import VoluteModel.Lemmas.Guards

/-!
# C19 (partial) - random() is a masked projection of the generator's word stream

For every word stream the result is well formed and every table position is a distinct bit of the
stream: nothing in volute can make it degenerate.  That `rand::thread_rng()` is fair and thread-local is
a runtime fact of another crate, covered by the statistical run, not by a theorem.
-/

namespace VoluteModel.Props.C19

/-- `fill_random` (operations.rs:168-176), the generator being a parameter -/
theorem fillRandom_spec (n : Nat) (t : Array W) (hs : t.size = tableSize n) (rng : Nat → W) :
    WF n (fillRandom n t rng) ∧
      ∀ m, m < 2 ^ n → bit (fillRandom n t rng) m = (rng (m / 64)).getLsbD (m % 64) :=
  masked_words (by simp [fillRandom, hs]) (fun k b => (rng k).getLsbD b)
    (fun k hk b hb => by
      simp only [fillRandom, Array.getElem_mapIdx]
      exact and_numVarsMask_bit n _ hb)

/-- C19, well formed -/
theorem random_WF (n : Nat) (rng : Nat → W) : (Dyn.random n rng).WF ∧ (Dyn.random n rng).n = n := by
  dsimp only [Dyn.random, Lut.WF]
  exact ⟨(fillRandom_spec n _ (Dyn.new_size n) rng).1, rfl⟩

/-- C19, a projection of the stream -/
theorem random_bit (n : Nat) (rng : Nat → W) (m : Nat) (hm : m < 2 ^ n) :
    (Dyn.random n rng).eval m = (rng (m / 64)).getLsbD (m % 64) := by
  dsimp only [Dyn.random, Lut.eval]
  exact (fillRandom_spec n _ (Dyn.new_size n) rng).2 m hm

/-- .. which is injective -/
theorem positions_distinct (m m' : Nat) (h : (m / 64, m % 64) = (m' / 64, m' % 64)) : m = m' :=
  Nat.ext_div_mod (Prod.mk.inj h).1 (Prod.mk.inj h).2

/-- C19, from six variables on the table is the stream prefix -/
theorem random_words (n : Nat) (h6 : 6 ≤ n) (rng : Nat → W) (i : Nat) (hi : i < tableSize n) :
    (Dyn.random n rng).t[i]? = some (rng i) := by
  dsimp only [Dyn.random, fillRandom]
  rw [Array.getElem?_mapIdx, Array.getElem?_eq_getElem ((Dyn.new_size n).symm ▸ hi), numVarsMask_ge6 n h6,
    BitVec.not_zero, BitVec.and_allOnes]
  rfl

/-- C19, two tables drawn from adjacent ranges of one stream read their own range only (the model has
    no stream state: the ranges are given) -/
theorem calls_disjoint (n : Nat) (stream : Nat → W) (m m' : Nat) (hm : m < 2 ^ n) (hm' : m' < 2 ^ n) :
    (Dyn.random n (fun i => stream i)).eval m = (stream (m / 64)).getLsbD (m % 64) ∧
    (Dyn.random n (fun i => stream (tableSize n + i))).eval m' = (stream (tableSize n + m' / 64)).getLsbD (m' % 64) ∧
    m / 64 < tableSize n ∧ tableSize n ≤ tableSize n + m' / 64 :=
  ⟨random_bit n _ m hm, random_bit n _ m' hm', div64_lt_tableSize hm, Nat.le_add_right _ _⟩

/-- non-vacuity: a constant stream -/
example : Dyn.random 3 (fun _ => 0xdeadbeef#64) = ⟨3, #[0xef#64]⟩ := by decide +kernel

end VoluteModel.Props.C19
