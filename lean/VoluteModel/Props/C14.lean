import VoluteModel.Model.Sop
import VoluteModel.Lemmas.SortDedup
import VoluteModel.Lemmas.Tabulate
import VoluteModel.Lemmas.XorFold
import VoluteModel.Lemmas.ListFacts
import VoluteModel.Lemmas.Cubes
import VoluteModel.Props.C12

/-!
# C14 - Sop operations preserve meaning and return containment-irredundant covers

A cover denotes the OR of its cubes.  `simplify` keeps it: every cube it drops is absorbed by one that
survives (an absorber has fewer literals, so following absorbers ends).  `|` and `&` are `simplify` of the
concatenation and of the pairwise products; `!` folds `&` over De Morgan factors.
-/

namespace VoluteModel.Props.C14
open VoluteModel.Cubes VoluteModel.Props.C12

/-- the function denoted by a list of cubes -/
def cval (cs : List Cube) (m : Nat) : Bool := cs.any (fun c => c.value m)

theorem sop_value (s : Sop) (m : Nat) : s.value m = cval s.cubes m := foldl_or_false ..

theorem le_iff (a b : Cube) : Cube.le a b = true ↔
    a.pos.toNat < b.pos.toNat ∨ (a.pos.toNat = b.pos.toNat ∧ a.neg.toNat ≤ b.neg.toNat) := by
  simp only [Cube.le, Bool.or_eq_true, Bool.and_eq_true, decide_eq_true_eq, bv_beq_iff, BitVec.toNat_inj]

theorem cube_keys_inj (a b : Cube) (hp : a.pos.toNat = b.pos.toNat) (hn : a.neg.toNat = b.neg.toNat) : a = b := by
  rw [Cube.mk.injEq]; exact ⟨BitVec.eq_of_toNat_eq hp, BitVec.eq_of_toNat_eq hn⟩

/-- number of literals, the measure that strict `implies` decreases -/
def lits (c : Cube) : Nat :=
  (List.range 32).countP (fun v => c.pos.getLsbD v) + (List.range 32).countP (fun v => c.neg.getLsbD v)

theorem countP_bits_lt (x y : W32) (hsub : ∀ v, y.getLsbD v = true → x.getLsbD v = true) (hne : x ≠ y) :
    (List.range 32).countP (fun v => y.getLsbD v) < (List.range 32).countP (fun v => x.getLsbD v) := by
  -- some bit differs, and there it is `x` that has it
  obtain ⟨v, hv, hd⟩ := ne_zero_bit (x ^^^ y) fun h => hne (BitVec.xor_eq_zero_iff.mp h)
  rw [BitVec.getLsbD_xor] at hd
  refine countP_lt_of (fun v _ => hsub v) ⟨v, List.mem_range.mpr hv, ?_⟩
  cases hy : y.getLsbD v
  · rw [hy, Bool.xor_false] at hd; exact ⟨hd, rfl⟩
  · rw [hsub v hy, hy] at hd; cases hd

theorem lits_lt (a b : Cube) (h : a.implies b = true) (hne : a ≠ b) : lits b < lits a := by
  obtain ⟨hp, hn⟩ := (implies_lits_iff a b).mp h
  by_cases hpe : a.pos = b.pos
  · exact Nat.add_lt_add_of_le_of_lt (List.countP_mono_left fun v _ => hp v)
      (countP_bits_lt a.neg b.neg hn fun e => hne (by cases a; cases b; cases hpe; cases e; rfl))
  · exact Nat.add_lt_add_of_lt_of_le (countP_bits_lt a.pos b.pos hp hpe) (List.countP_mono_left fun v _ => hn v)

/-- the list after the first three steps of `simplify` -/
def dedupd (cs : List Cube) : List Cube := dedupAdj ((cs.filter (fun c => !c.isZero)).mergeSort Cube.le)

theorem dedupd_spec (cs : List Cube) :
    (dedupd cs).Nodup ∧ ∀ x, x ∈ dedupd cs ↔ (x ∈ cs ∧ x.isZero = false) := by
  obtain ⟨h1, h2⟩ := sort_dedup_lex Cube.le le_iff cube_keys_inj (cs.filter (fun c => !c.isZero))
  exact ⟨h1, fun x => (h2 x).trans (by rw [List.mem_filter, Bool.not_eq_true'])⟩

theorem mem_simplify (cs : List Cube) (c : Cube) :
    c ∈ Sop.simplifyCubes cs ↔ c ∈ dedupd cs ∧ ∀ o ∈ dedupd cs, c ≠ o → c.implies o = false := by
  show c ∈ (dedupd cs).filter (fun c => (dedupd cs).all (fun o => c == o || !c.implies o)) ↔ _
  rw [List.mem_filter, List.all_eq_true]
  refine and_congr_right' (forall_congr' fun o => imp_congr_right fun _ => ?_)
  rw [Bool.or_eq_true, beq_iff_eq, Bool.not_eq_true', Decidable.or_iff_not_imp_left]

/-- every cube of the deduplicated list is absorbed by a survivor (`k` plays no part) -/
theorem absorber (cs : List Cube) : ∀ k c, lits c ≤ k → c ∈ dedupd cs →
    ∃ o ∈ Sop.simplifyCubes cs, c.implies o = true := by
  rintro _ c - hc
  induction h : lits c using Nat.strongRecOn generalizing c with
  | _ n ih =>
    by_cases hs : ∃ o ∈ dedupd cs, c ≠ o ∧ c.implies o = true
    · obtain ⟨o, ho, hne, himp⟩ := hs
      obtain ⟨o', ho', hi'⟩ := ih (lits o) (h ▸ lits_lt c o himp hne) o ho rfl
      exact ⟨o', ho', implies_trans c o o' himp hi'⟩
    · exact ⟨c, (mem_simplify cs c).mpr ⟨hc, fun o ho hne => Bool.eq_false_iff.mpr fun hi => hs ⟨o, ho, hne, hi⟩⟩,
        implies_refl c⟩

/-- simplify preserves the denoted function -/
theorem simplify_value (cs : List Cube) (m : Nat) : cval (Sop.simplifyCubes cs) m = cval cs m := by
  apply Bool.eq_iff_iff.mpr
  unfold cval
  simp only [List.any_eq_true]
  constructor
  · rintro ⟨c, hc, hv⟩
    exact ⟨c, (((dedupd_spec cs).2 c).mp ((mem_simplify cs c).mp hc).1).1, hv⟩
  · rintro ⟨c, hc, hv⟩
    have hd : c ∈ dedupd cs := ((dedupd_spec cs).2 c).mpr ⟨hc, not_isZero_of_value hv⟩
    obtain ⟨o, ho, hi⟩ := absorber cs _ c (Nat.le_refl _) hd
    exact ⟨o, ho, implies_sound c o hi m hv⟩

/-- the structural guarantee: no contradictory cube, no duplicate, no cube implying another -/
def Irredundant (r : Sop) : Prop :=
  (∀ c ∈ r.cubes, c.isZero = false) ∧ r.cubes.Nodup ∧
    (∀ c ∈ r.cubes, ∀ d ∈ r.cubes, c ≠ d → c.implies d = false)

/-- the result of `simplify` is irredundant -/
theorem simplify_irredundant (cs : List Cube) :
    (∀ c ∈ Sop.simplifyCubes cs, c.isZero = false) ∧ (Sop.simplifyCubes cs).Nodup ∧
    (∀ c ∈ Sop.simplifyCubes cs, ∀ d ∈ Sop.simplifyCubes cs, c ≠ d → c.implies d = false) :=
  ⟨fun c hc => (((dedupd_spec cs).2 c).mp ((mem_simplify cs c).mp hc).1).2, (dedupd_spec cs).1.filter _,
    fun c hc d hd => ((mem_simplify cs c).mp hc).2 d ((mem_simplify cs d).mp hd).1⟩

theorem or_eq_some {a b r : Sop} (h : Sop.or a b = some r) : r = ⟨a.n, Sop.simplifyCubes (a.cubes ++ b.cubes)⟩ :=
  (Option.some.inj (Option.ite_none_left_eq_some.mp h).2).symm

/-- `|` denotes OR -/
theorem or_spec (a b r : Sop) (h : Sop.or a b = some r) :
    (∀ m, r.value m = (a.value m || b.value m)) ∧ r.n = a.n ∧ r.cubes = Sop.simplifyCubes (a.cubes ++ b.cubes) := by
  rw [or_eq_some h]
  refine ⟨fun m => ?_, rfl, rfl⟩
  rw [sop_value, sop_value, sop_value, simplify_value, cval, List.any_append]; rfl

/-- the pairwise products of `Sop::and` that are not contradictory -/
def products (as bs : List Cube) : List Cube :=
  as.flatMap (fun c1 => bs.filterMap (fun c2 =>
    let c := Cube.and c1 c2
    if c != Cube.zero then some c else none))

theorem products_value (as bs : List Cube) (m : Nat) : cval (products as bs) m = (cval as m && cval bs m) := by
  apply Bool.eq_iff_iff.mpr
  unfold cval products
  simp only [List.any_eq_true, List.mem_flatMap, List.mem_filterMap, Bool.and_eq_true]
  constructor
  · rintro ⟨c, ⟨c1, h1, c2, h2, hc⟩, hv⟩
    obtain ⟨_, rfl⟩ := guard_some.mp hc
    rw [and_value, Bool.and_eq_true] at hv
    exact ⟨⟨c1, h1, hv.1⟩, ⟨c2, h2, hv.2⟩⟩
  · rintro ⟨⟨c1, h1, v1⟩, ⟨c2, h2, v2⟩⟩
    have hv : (Cube.and c1 c2).value m = true := by rw [and_value, v1, v2]; rfl
    exact ⟨Cube.and c1 c2, ⟨c1, h1, c2, h2, if_pos (bne_iff_ne.mpr (ne_zero_of_value hv))⟩, hv⟩

theorem and_eq_some {a b r : Sop} (h : Sop.and a b = some r) :
    r = ⟨a.n, Sop.simplifyCubes (products a.cubes b.cubes)⟩ :=
  (Option.some.inj (Option.ite_none_left_eq_some.mp h).2).symm

/-- `&` denotes AND -/
theorem and_spec (a b r : Sop) (h : Sop.and a b = some r) :
    (∀ m, r.value m = (a.value m && b.value m)) ∧ r.n = a.n := by
  rw [and_eq_some h]
  refine ⟨fun m => ?_, rfl⟩
  rw [sop_value, sop_value, sop_value, simplify_value, products_value]

/-- the results of `&` and `|` are results of `simplify`, hence irredundant (`simplify_irredundant`) -/
theorem results_irredundant (a b r : Sop) (h : Sop.and a b = some r ∨ Sop.or a b = some r) :
    (∀ c ∈ r.cubes, c.isZero = false) ∧ r.cubes.Nodup ∧
    (∀ c ∈ r.cubes, ∀ d ∈ r.cubes, c ≠ d → c.implies d = false) := by
  rcases h with h | h
  · rw [and_eq_some h]; exact simplify_irredundant _
  · rw [or_eq_some h]; exact simplify_irredundant _

/-- `is_zero` exactly for the constant zero (no contradictory cube in the cover) -/
theorem isZero_iff (cs : List Cube) (hnz : ∀ c ∈ cs, c.isZero = false) :
    (⟨0, cs⟩ : Sop).isZero = true ↔ ∀ m, cval cs m = false := by
  cases cs with
  | nil => exact ⟨fun _ _ => rfl, fun _ => rfl⟩
  | cons c cs =>
    -- a first cube that is not contradictory is true somewhere
    refine ⟨fun h => (nomatch h), fun h => ?_⟩
    have := h c.pos.toNat
    rw [cval, List.any_cons, witness c (hnz c List.mem_cons_self)] at this
    cases this

/-- `is_one` only for the constant one -/
theorem isOne_sound (s : Sop) (h : s.isOne = true) (m : Nat) : s.value m = true := by
  unfold Sop.isOne at h
  rw [sop_value]
  cases hc : s.cubes with
  | nil => rw [hc] at h; cases h
  | cons c cs =>
    rw [hc] at h
    rw [cval, List.any_cons, value_of_isOne c h m]; rfl

/-- the De Morgan factor of a cube, as a cover over `n` variables -/
def factor (n : Nat) (c : Cube) : Sop := ⟨n, c.posVars.map Cube.nthVarInv ++ c.negVars.map Cube.nthVar⟩

theorem factor_value (n : Nat) (c : Cube) (m : Nat) : (factor n c).value m = !c.value m := by
  -- no complemented literal is true exactly when every literal of the cube is
  have key : (!(factor n c).value m) = c.value m := by
    apply Bool.eq_iff_iff.mpr
    rw [Bool.not_eq_true', value_lits_iff, sop_value, factor, cval, List.any_append, Bool.or_eq_false_iff,
      List.any_eq_false, List.any_eq_false, List.forall_mem_map, List.forall_mem_map]
    refine and_congr (forall_congr' fun v => ?_) (forall_congr' fun v => ?_)
    · rw [show v ∈ c.posVars ↔ _ from mem_vars_iff c.pos v]
      exact imp_congr_right fun hp => by
        rw [(nthVar_value v (BitVec.lt_of_getLsbD hp) m).2, Bool.not_eq_true, Bool.not_eq_false']
    · rw [show v ∈ c.negVars ↔ _ from mem_vars_iff c.neg v]
      exact imp_congr_right fun hn => by rw [(nthVar_value v (BitVec.lt_of_getLsbD hn) m).1, Bool.not_eq_true]
  rw [← key, Bool.not_not]

theorem not_eq (s : Sop) : Sop.not s =
    s.cubes.foldl (fun ret c => ret.bind fun r => Sop.and r (factor s.n c)) (some (Sop.one s.n)) := by
  unfold Sop.not
  congr 1
  funext ret c
  cases ret <;> rfl

/-- the fold of `Sop.not` from `a`: `a` and-ed with the complement of the remaining cubes, irredundant once
one `&` is done -/
theorem notFold (n : Nat) (cs : List Cube) (a r : Sop) (hn : a.n = n)
    (h : cs.foldl (fun ret c => ret.bind fun r => Sop.and r (factor n c)) (some a) = some r) :
    r.n = n ∧ (∀ m, r.value m = (a.value m && !cval cs m)) ∧ ((cs = [] ∧ r = a) ∨ Irredundant r) := by
  induction cs generalizing a with
  | nil => cases h; exact ⟨hn, fun m => by simp [cval], Or.inl ⟨rfl, rfl⟩⟩
  | cons c cs ih =>
    rw [List.foldl_cons, Option.bind_some] at h
    cases ha : Sop.and a (factor n c) with
    | none =>
      -- the size assertion cannot fail: both operands have `n` variables
      rw [Sop.and, if_neg (by rw [hn]; exact fun h => absurd rfl (bne_iff_ne.mp h))] at ha
      cases ha
    | some a' =>
      rw [ha] at h
      obtain ⟨hv, hn'⟩ := and_spec a _ a' ha
      obtain ⟨r1, r2, r3⟩ := ih a' (hn'.trans hn) h
      refine ⟨r1, fun m => ?_, Or.inr ?_⟩
      · rw [r2 m, hv m, factor_value, cval, cval, List.any_cons, Bool.not_or, Bool.and_assoc]
      · rcases r3 with ⟨_, rfl⟩ | hir
        · exact results_irredundant a _ r (Or.inl ha)
        · exact hir

/-- `!` denotes the complement -/
theorem not_spec (s r : Sop) (h : Sop.not s = some r) : (∀ m, r.value m = !s.value m) ∧ r.n = s.n := by
  rw [not_eq] at h
  obtain ⟨h1, h2, _⟩ := notFold s.n s.cubes (Sop.one s.n) r rfl h
  refine ⟨fun m => ?_, h1⟩
  rw [h2 m, sop_value s, isOne_sound (Sop.one s.n) rfl m, Bool.true_and]

/-- and is irredundant -/
theorem not_irredundant (s r : Sop) (h : Sop.not s = some r) : Irredundant r := by
  rw [not_eq] at h
  rcases (notFold s.n s.cubes (Sop.one s.n) r rfl h).2.2 with ⟨_, rfl⟩ | hir
  · -- no cube: the result is the constant-one cover
    exact ⟨fun c hc => by rw [List.mem_singleton.mp hc]; decide, List.pairwise_singleton _ _,
      fun _ hc _ hd hne => absurd ((List.mem_singleton.mp hc).trans (List.mem_singleton.mp hd).symm) hne⟩
  · exact hir

/-- expressions nesting `&`, `|`, `!` to any depth: the operator theorems compose along the tree -/
inductive SExpr where
  | leaf (s : Sop)
  | and (a b : SExpr)
  | or (a b : SExpr)
  | not (a : SExpr)

/-- what the crate computes (`none`: a size assertion fails) -/
def SExpr.eval : SExpr → Option Sop
  | .leaf s => some s
  | .and a b => match a.eval, b.eval with
    | some x, some y => Sop.and x y
    | _, _ => none
  | .or a b => match a.eval, b.eval with
    | some x, some y => Sop.or x y
    | _, _ => none
  | .not a => match a.eval with
    | some x => Sop.not x
    | none => none

/-- what the expression means -/
def SExpr.den : SExpr → Nat → Bool
  | .leaf s, m => s.value m
  | .and a b, m => a.den m && b.den m
  | .or a b, m => a.den m || b.den m
  | .not a, m => !a.den m

def SExpr.isLeaf : SExpr → Bool
  | .leaf _ => true
  | _ => false

theorem SExpr.eval_and {a b : SExpr} {r : Sop} (h : (SExpr.and a b).eval = some r) :
    ∃ x y, a.eval = some x ∧ b.eval = some y ∧ Sop.and x y = some r := by
  unfold SExpr.eval at h
  split at h
  · rename_i x y hx hy; exact ⟨x, y, hx, hy, h⟩
  · cases h

theorem SExpr.eval_or {a b : SExpr} {r : Sop} (h : (SExpr.or a b).eval = some r) :
    ∃ x y, a.eval = some x ∧ b.eval = some y ∧ Sop.or x y = some r := by
  unfold SExpr.eval at h
  split at h
  · rename_i x y hx hy; exact ⟨x, y, hx, hy, h⟩
  · cases h

theorem SExpr.eval_not {a : SExpr} {r : Sop} (h : (SExpr.not a).eval = some r) :
    ∃ x, a.eval = some x ∧ Sop.not x = some r := by
  unfold SExpr.eval at h
  split at h
  · rename_i x hx; exact ⟨x, hx, h⟩
  · cases h

/-- the result denotes the Boolean expression of the leaves' values, whatever cubes the leaves hold -/
theorem expr_value (e : SExpr) (r : Sop) (h : e.eval = some r) : ∀ m, r.value m = e.den m := by
  intro m
  induction e generalizing r with
  | leaf s => cases h; rfl
  | and a b iha ihb =>
    obtain ⟨x, y, hx, hy, h⟩ := SExpr.eval_and h
    rw [(and_spec x y r h).1 m, iha x hx, ihb y hy]; rfl
  | or a b iha ihb =>
    obtain ⟨x, y, hx, hy, h⟩ := SExpr.eval_or h
    rw [(or_spec x y r h).1 m, iha x hx, ihb y hy]; rfl
  | not a iha =>
    obtain ⟨x, hx, h⟩ := SExpr.eval_not h
    rw [(not_spec x r h).1 m, iha x hx]; rfl

/-- the result of the operator at the root is an irredundant cover -/
theorem expr_irredundant (e : SExpr) (r : Sop) (h : e.eval = some r) (hl : e.isLeaf = false) :
    Irredundant r := by
  cases e with
  | leaf s => cases hl
  | and a b =>
    obtain ⟨x, y, _, _, h⟩ := SExpr.eval_and h
    exact results_irredundant x y r (Or.inl h)
  | or a b =>
    obtain ⟨x, y, _, _, h⟩ := SExpr.eval_or h
    exact results_irredundant x y r (Or.inr h)
  | not a =>
    obtain ⟨x, _, h⟩ := SExpr.eval_not h
    exact not_irredundant x r h

/-- Lut -> Sop is the minterm cover and converting back is the identity -/
theorem fromLut_roundtrip (l : Lut) (hn : l.n ≤ 32) (m : Nat) (hm : m < 2 ^ l.n) :
    (Sop.fromLut l).value m = l.eval m ∧ (Sop.fromLut l).toLut.eval m = l.eval m := by
  have hval : (Sop.fromLut l).value m = l.eval m := by
    rw [sop_value, Lut.eval, ← getBit_eq_bit]
    apply Bool.eq_iff_iff.mpr
    simp only [cval, Sop.fromLut, Dyn.numBits_eq, List.any_eq_true, List.mem_filterMap, List.mem_range]
    constructor
    · rintro ⟨c, ⟨k, hk, hc⟩, hv⟩
      obtain ⟨hb, rfl⟩ := guard_some.mp hc
      rwa [← (minterm_value_eq l.n k m hn hk hm).mp hv]
    · intro h
      exact ⟨Cube.minterm l.n m, ⟨m, hm, by rw [if_pos h]⟩, (minterm_value_eq l.n m m hn hm hm).mpr rfl⟩
  exact ⟨hval, (tabulate_eval _ _ m hm).trans hval⟩

/-- converting any Sop to a Lut tabulates its function -/
theorem toLut_spec (s : Sop) (m : Nat) (hm : m < 2 ^ s.n) : s.toLut.eval m = s.value m ∧ s.toLut.n = s.n :=
  ⟨tabulate_eval s.n s.value m hm, tabulate_n ..⟩

/-- non-vacuity: `|` on covers with a repeated and an absorbed cube; `simplifyCubes` stays unevaluated, the
    kernel gets stuck on `List.mergeSort` (well-founded recursion) -/
example : Sop.or ⟨2, [⟨1, 0⟩, ⟨3, 0⟩]⟩ ⟨2, [⟨1, 0⟩, ⟨0, 2⟩]⟩ =
    some ⟨2, Sop.simplifyCubes [⟨1, 0⟩, ⟨3, 0⟩, ⟨1, 0⟩, ⟨0, 2⟩]⟩ := by simp [Sop.or]

/-- non-vacuity: `(x0 | x0 x1) & (x1 | !x0 | x1 !x0)` over redundant operands evaluates -/
example : ((SExpr.and (.or (.leaf ⟨2, [⟨1, 0⟩]⟩) (.leaf ⟨2, [⟨3, 0⟩, ⟨3, 0⟩]⟩))
    (.leaf ⟨2, [⟨2, 0⟩, ⟨0, 1⟩, ⟨2, 1⟩]⟩)).eval).isSome = true := by decide +kernel

end VoluteModel.Props.C14
