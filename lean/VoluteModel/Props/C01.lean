import VoluteModel.Model.Api
import VoluteModel.Lemmas.Pointwise

/-!
# C01 - logical operators are exact pointwise Boolean operations

For every `n`.  That the ~20 syntactic forms are modelled as the source writes them is the business of
the correspondence run over all forms on both types.
-/

namespace VoluteModel.Props.C01

/-! C01, the kernels (operations.rs:195-225): pointwise, and the results are well formed - NOT re-masks,
whatever the operand's high bits were. -/

theorem not_WF (n : Nat) (t : Array W) (hs : t.size = tableSize n) : WF n (notInplace n t) :=
  (notInplace_spec n t hs).1

theorem not_eval (n : Nat) (t : Array W) (hs : t.size = tableSize n) (m : Nat) (hm : m < 2 ^ n) :
    bit (notInplace n t) m = !bit t m :=
  (notInplace_spec n t hs).2 m hm

theorem and_eval (a b : Array W) (hs : a.size = b.size) (m : Nat) :
    bit (andInplace a b) m = (bit a m && bit b m) :=
  bit_zipWith_op _ (· && ·) (fun _ _ _ => BitVec.getLsbD_and) rfl a b hs m

theorem or_eval (a b : Array W) (hs : a.size = b.size) (m : Nat) :
    bit (orInplace a b) m = (bit a m || bit b m) :=
  bit_zipWith_op _ (· || ·) (fun _ _ _ => BitVec.getLsbD_or) rfl a b hs m

theorem xor_eval (a b : Array W) (hs : a.size = b.size) (m : Nat) :
    bit (xorInplace a b) m = (bit a m != bit b m) :=
  bit_zipWith_op _ (· != ·) (fun _ _ _ => BitVec.getLsbD_xor) rfl a b hs m

theorem and_WF (n : Nat) (a b : Array W) (ha : WF n a) (hb : WF n b) : WF n (andInplace a b) :=
  zipWith_WF _ (· && ·) (fun _ _ _ => BitVec.getLsbD_and) rfl n a b ha hb
theorem or_WF (n : Nat) (a b : Array W) (ha : WF n a) (hb : WF n b) : WF n (orInplace a b) :=
  zipWith_WF _ (· || ·) (fun _ _ _ => BitVec.getLsbD_or) rfl n a b ha hb
theorem xor_WF (n : Nat) (a b : Array W) (ha : WF n a) (hb : WF n b) : WF n (xorInplace a b) :=
  zipWith_WF _ (· != ·) (fun _ _ _ => BitVec.getLsbD_xor) rfl n a b ha hb

/-- the Boolean function of operator number `op` (0 and, 1 or, else xor) -/
def bop (op : Nat) (x y : Bool) : Bool := match op with
  | 0 => x && y
  | 1 => x || y
  | _ => x != y

/-- C01, `Lut`: every form is the compound assignment by reference -/
theorem dyn_binForm_eq : ∀ (op form : Nat) (a b : Lut), Dyn.binForm op form a b = Dyn.opAssignRef op a b := by
  intro op form a b
  match op, form with
  | 0, 0 | 0, 1 | 1, 0 | 1, 1 | _ + 2, 0 | _ + 2, 1 | _, _ + 2 => rfl

theorem dyn_forms_agree (op f g : Nat) (a b : Lut) : Dyn.binForm op f a b = Dyn.binForm op g a b := by
  rw [dyn_binForm_eq, dyn_binForm_eq]

/-- the static operator has no size assertion (the types guarantee it); the dynamic one is it behind one -/
theorem binForm_factor (op form : Nat) (a b : Lut) :
    Dyn.binForm op form a b = if a.n == b.n then Stat.binForm op form a b else none := by
  rw [dyn_binForm_eq]; rfl

/-- C01, `StaticLut`: every form is pointwise; none can panic -/
theorem stat_binForm_spec (op form : Nat) (a b : Lut) (ha : a.WF) (hb : b.WF) (hn : a.n = b.n) :
    ∃ r, Stat.binForm op form a b = some r ∧ r.n = a.n ∧ r.WF ∧
      ∀ m, m < 2 ^ a.n → r.eval m = bop op (a.eval m) (b.eval m) :=
  have hs : a.t.size = b.t.size := by rw [ha.1, hb.1, hn]
  have hb : WF a.n b.t := hn ▸ hb
  match op with
  | 0 => ⟨_, rfl, rfl, and_WF a.n a.t b.t ha hb, fun m _ => and_eval a.t b.t hs m⟩
  | 1 => ⟨_, rfl, rfl, or_WF a.n a.t b.t ha hb, fun m _ => or_eval a.t b.t hs m⟩
  | _ + 2 => ⟨_, rfl, rfl, xor_WF a.n a.t b.t ha hb, fun m _ => xor_eval a.t b.t hs m⟩

/-- C01, `Lut`: the same, once the size assertion passes -/
theorem dyn_binForm_spec (op form : Nat) (a b : Lut) (ha : a.WF) (hb : b.WF) (hn : a.n = b.n) :
    ∃ r, Dyn.binForm op form a b = some r ∧ r.n = a.n ∧ r.WF ∧
      ∀ m, m < 2 ^ a.n → r.eval m = bop op (a.eval m) (b.eval m) := by
  rw [binForm_factor, if_pos (beq_iff_eq.mpr hn)]
  exact stat_binForm_spec op form a b ha hb hn

/-- C01 / C17: size mismatch, every form panics -/
theorem dyn_binForm_mismatch (op form : Nat) (a b : Lut) (hn : a.n ≠ b.n) :
    Dyn.binForm op form a b = none := by
  rw [binForm_factor, if_neg (fun h => hn (beq_iff_eq.mp h))]

/-- for C02's induction -/
theorem binForm_WF {op form : Nat} {a b l : Lut} (h : Dyn.binForm op form a b = some l)
    (ha : a.WF) (hb : b.WF) : l.WF := by
  rw [binForm_factor] at h
  obtain ⟨hn, h⟩ := Option.ite_none_right_eq_some.mp h
  obtain ⟨r, hr, _, hw, _⟩ := stat_binForm_spec op form a b ha hb (beq_iff_eq.mp hn)
  exact Option.some.inj (hr.symm.trans h) ▸ hw

/-- C01, NOT: all four forms, both types (one model definition) -/
theorem notForm_spec (form : Nat) (a : Lut) (ha : a.WF) :
    (Dyn.notForm form a).n = a.n ∧ (Dyn.notForm form a).WF ∧
      ∀ m, m < 2 ^ a.n → (Dyn.notForm form a).eval m = !a.eval m :=
  ⟨rfl, notInplace_spec a.n a.t ha.1⟩

/-- non-vacuity: majority of 3 variables and the projection on x0 -/
example : (⟨3, #[0xe8#64]⟩ : Lut).WF ∧ (⟨3, #[0xaa#64]⟩ : Lut).WF := by
  constructor <;> (unfold Lut.WF; decide +kernel)

example : Dyn.binForm 0 4 ⟨3, #[0xe8#64]⟩ ⟨3, #[0xaa#64]⟩ = some ⟨3, #[0xa8#64]⟩ := by decide +kernel

end VoluteModel.Props.C01
