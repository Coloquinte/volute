import VoluteModel.Model.Api
import VoluteModel.Lemmas.Pointwise
import VoluteModel.Lemmas.Guards
import VoluteModel.Lemmas.Popcount
import VoluteModel.Lemmas.NatBits
import VoluteModel.Lemmas.XorFold

/-!
# C11 - named constructors build exactly the functions their names denote

For every `k : Nat` and every count mask.  `symmetric_bit` needs `n ≤ 70` only (64 bits of word index, 6 of
position); the API statements take `n < 64`: then `popcount m ≤ n` is a position of the 64-bit count mask
(`symmetric_pred`), and `num_bits = 1 << n` fits a `usize`.  Where a statement is `rfl` the model mirrors
the source; the content is then the correspondence run.
-/

namespace VoluteModel.Props.C11

/-- the or-accumulation loop of `fill_symmetric` -/
theorem foldOr_bit (cs : List Nat) (p : Nat → Bool) (M : Nat → W) (acc : W) (b : Nat) :
    (cs.foldl (fun acc c => if p c then acc ||| M c else acc) acc).getLsbD b =
      (acc.getLsbD b || cs.any (fun c => p c && (M c).getLsbD b)) := by
  rw [← foldl_or]
  refine (List.foldl_hom (fun x : W => x.getLsbD b) fun x c => ?_).symm
  cases p c
  · exact Bool.or_false _
  · rw [if_pos rfl, BitVec.getLsbD_or, Bool.true_and]

/-- `COUNT_MASKS[c]` holds the positions with `c` ones: position `b` of word `w` is set iff the count mask
    selects `count_ones(w) + count_ones(b)` -/
theorem symWord_bit (n : Nat) (cv : W) (w b : Nat) (hb : b < 64) :
    (symWord n cv w).getLsbD b = (cv.getLsbD (popc 64 w + popc 6 b) && decide (b < 2 ^ n)) := by
  unfold symWord
  rw [and_numVarsMask_bit n _ hb, foldOr_bit, COUNT_MASKS_size, BitVec.getLsbD_zero,
    Bool.false_or]
  simp only [shr_and_one_ne_zero]
  rw [any_range_select 7 (popc 6 b) (Nat.lt_succ_of_le (popc_le 6 b)) _ _
    fun c hc => countMask_bit ⟨c, hc⟩ ⟨b, hb⟩]

theorem fillSymmetric_spec (n : Nat) (t : Array W) (hs : t.size = tableSize n) (cv : W) :
    WF n (fillSymmetric n t cv) ∧ ∀ m, m < 2 ^ n →
      bit (fillSymmetric n t cv) m = cv.getLsbD (popc 64 (m / 64) + popc 6 (m % 64)) :=
  masked_words (by simp [fillSymmetric, hs]) (fun w b => cv.getLsbD (popc 64 w + popc 6 b))
    (fun k _ b hb => by simp only [fillSymmetric, Array.getElem_mapIdx]; exact symWord_bit n cv k b hb)

/-- C11, `symmetric(c)`, the kernel: bit popcount(m) of c -/
theorem symmetric_bit (n : Nat) (hn : n ≤ 70) (t : Array W) (hs : t.size = tableSize n) (cv : W)
    (m : Nat) (hm : m < 2 ^ n) : bit (fillSymmetric n t cv) m = cv.getLsbD (popc n m) := by
  rw [(fillSymmetric_spec n t hs cv).2 m hm, popc_of_index n m hn hm]

theorem fillOne_spec (n : Nat) (t : Array W) (hs : t.size = tableSize n) :
    WF n (fillOne n t) ∧ ∀ m, m < 2 ^ n → bit (fillOne n t) m = true :=
  masked_words (by simp [fillOne, hs]) (fun _ _ => true)
    (fun k hk b hb => by simp [fillOne, numVarsMask_bit n b hb])

/-- C11, `one`, the kernel -/
theorem one_bit (n : Nat) (t : Array W) (hs : t.size = tableSize n) (m : Nat) (hm : m < 2 ^ n) :
    bit (fillOne n t) m = true := (fillOne_spec n t hs).2 m hm

theorem fillNthVar_spec (n : Nat) (t : Array W) (hs : t.size = tableSize n) (i : Nat) (hi : i < n) :
    WF n (fillNthVar n t i) ∧ ∀ m, m < 2 ^ n → bit (fillNthVar n t i) m = m.testBit i := by
  by_cases h6 : i < 6
  · rw [fillNthVar, if_pos (Nat.le_of_lt_succ h6)]
    refine (masked_words (by rw [Array.size_map, hs]) (fun _ b => b.testBit i) fun k hk b hb => ?_).imp_right
      fun h m hm => (h m hm).trans (testBit_mod64 h6 m)
    rw [Array.getElem_map, and_numVarsMask_bit n _ hb]
    rw [varMask_getLsbD i h6 b, decide_eq_true hb, Bool.true_and]
  · -- more than six variables: every position of a word is below `2^n`
    have h64 : 64 ≤ 2 ^ n := le_two_pow_of_ge6 (Nat.le_trans (Nat.le_of_not_lt h6) (Nat.le_of_lt hi))
    rw [fillNthVar, if_neg (fun h5 => h6 (Nat.lt_succ_of_le h5))]
    refine (masked_words (by rw [Array.size_mapIdx, hs]) (fun k _ => k.testBit (i - 6)) fun k hk b hb => ?_).imp_right
      fun h m hm => (h m hm).trans (by rw [testBit_div64, Nat.add_sub_cancel' (Nat.le_of_not_lt h6)])
    have hz := and_two_pow_eq_zero k (i - 6)
    rw [Array.getElem_mapIdx, Nat.one_shiftLeft, bne, hz, Bool.not_not,
      decide_eq_true (Nat.lt_of_lt_of_le hb h64), Bool.and_true]
    cases k.testBit (i - 6)
    · exact BitVec.getLsbD_zero
    · rw [if_pos rfl, BitVec.not_zero, BitVec.getLsbD_allOnes, decide_eq_true hb]

/-- `!0 - (1 << k) + 1` is `-(1 << k) = !0 << k`: every position from `k` on -/
theorem thresholdMask_bit (k s : Nat) (hs : s < 64) :
    (~~~ 0#64 - (1#64 <<< k) + 1#64).getLsbD s = decide (k ≤ s) := by
  rw [BitVec.not_zero, BitVec.allOnes_sub_eq_not, ← BitVec.neg_eq_not_add, ← BitVec.shiftLeft_neg,
    BitVec.neg_one_eq_allOnes, BitVec.getLsbD_shiftLeft, BitVec.getLsbD_allOnes]
  simp [hs, Nat.lt_of_le_of_lt (Nat.sub_le s k) hs, ← Nat.not_le]

theorem parityMask_bit : ∀ s : Fin 64, ((0xaaaaaaaaaaaaaaaa#64).getLsbD s.val) = decide (s.val % 2 = 1) := by
  decide +kernel

/-! A statement about `Dyn.x` is first brought to the kernel by `dsimp only [Dyn.x, Lut.WF, Lut.eval]`:
`exact` alone unfolds `Array.mapIdx` down to its recursor before it unfolds the wrapper. -/

theorem zero_eval (n m : Nat) : (Dyn.zero n).eval m = false := bit_fillZero _ m

theorem one_spec (n : Nat) : (Dyn.one n).WF ∧ ∀ m, m < 2 ^ n → (Dyn.one n).eval m = true := by
  dsimp only [Dyn.one, Lut.WF, Lut.eval]
  exact fillOne_spec n _ (Dyn.new_size n)

/-- C11, the constructors at the API, in the property's order: the constants and `Default` -/
theorem api_zero_one (n : Nat) :
    (Dyn.zero n).WF ∧ (Dyn.one n).WF ∧ (∀ m, (Dyn.zero n).eval m = false) ∧
    (∀ m, m < 2 ^ n → (Dyn.one n).eval m = true) ∧ Dyn.default = Dyn.zero 0 :=
  ⟨Dyn.zero_WF n, (one_spec n).1, zero_eval n, (one_spec n).2, rfl⟩

/-- `nth_var(i)`, when it returns (`i < n`: C17) -/
theorem api_nthVar {n i : Nat} {l : Lut} (h : Dyn.nthVar n i = some l) :
    l.n = n ∧ l.WF ∧ ∀ m, m < 2 ^ n → l.eval m = m.testBit i := by
  obtain ⟨hi, rfl⟩ := guard_some.mp h
  exact ⟨rfl, fillNthVar_spec n _ (Dyn.new_size n) i hi⟩

/-- the `*_spec` statements keep well-formedness free of `n < 64`: C02 needs it for every n -/
theorem symmetric_spec (n : Nat) (c : W) :
    (Dyn.symmetric n c).WF ∧
      (n < 64 → ∀ m, m < 2 ^ n → (Dyn.symmetric n c).eval m = c.getLsbD (popc n m)) := by
  dsimp only [Dyn.symmetric, Lut.WF, Lut.eval]
  exact ⟨(fillSymmetric_spec n _ (Dyn.new_size n) c).1, fun hn =>
    symmetric_bit n (Nat.le_trans (Nat.le_of_lt hn) (by decide)) _ (Dyn.new_size n) c⟩

theorem symmetric_pred (n : Nat) (hn : n < 64) (c : W) (P : Nat → Bool)
    (hP : ∀ s, s < 64 → c.getLsbD s = P s) (m : Nat) (hm : m < 2 ^ n) :
    (Dyn.symmetric n c).eval m = P (popc n m) := by
  rw [(symmetric_spec n c).2 hn m hm]
  exact hP _ (Nat.lt_of_le_of_lt (popc_le n m) hn)

theorem api_symmetric (n : Nat) (hn : n < 64) (c : W) :
    (Dyn.symmetric n c).n = n ∧ (Dyn.symmetric n c).WF ∧
    ∀ m, m < 2 ^ n → (Dyn.symmetric n c).eval m = c.getLsbD (popc n m) :=
  ⟨rfl, (symmetric_spec n c).1, (symmetric_spec n c).2 hn⟩

/-- no assignment has more than `n` ones: behind the `k > num_vars` guards `zero` is the right table -/
theorem zero_of_gt {n k : Nat} (hk : k > n) (m : Nat) :
    (Dyn.zero n).eval m = decide (popc n m = k) ∧ (Dyn.zero n).eval m = decide (k ≤ popc n m) := by
  have := popc_le n m
  rw [zero_eval, eq_comm, eq_comm (a := false), decide_eq_false_iff_not, decide_eq_false_iff_not]
  omega

theorem equals_eq (n k : Nat) :
    Dyn.equals n k = if k > n then Dyn.zero n else Dyn.symmetric n (1#64 <<< k) := by
  unfold Dyn.equals fillEquals
  split <;> rfl

theorem equals_spec (n k : Nat) : (Dyn.equals n k).WF ∧
    (n < 64 → ∀ m, m < 2 ^ n → (Dyn.equals n k).eval m = decide (popc n m = k)) := by
  rw [equals_eq]
  split
  · next hk => exact ⟨Dyn.zero_WF n, fun _ m _ => (zero_of_gt hk m).1⟩
  · exact ⟨(symmetric_spec n _).1, fun hn =>
      symmetric_pred n hn _ (fun s => decide (s = k)) fun s hs => by
        rw [one_shl_bit, decide_eq_true hs, Bool.true_and]⟩

/-- for every k, including 63, 64, 65 and usize::MAX -/
theorem api_equals (n : Nat) (hn : n < 64) (k : Nat) :
    (Dyn.equals n k).n = n ∧ (Dyn.equals n k).WF ∧
    ∀ m, m < 2 ^ n → (Dyn.equals n k).eval m = decide (popc n m = k) :=
  ⟨rfl, (equals_spec n k).1, (equals_spec n k).2 hn⟩

theorem threshold_eq (n k : Nat) :
    Dyn.threshold n k = if k = 0 then Dyn.one n else if k > n then Dyn.zero n
      else Dyn.symmetric n (~~~ 0#64 - (1#64 <<< k) + 1#64) := by
  unfold Dyn.threshold fillThreshold
  rw [apply_ite (Lut.mk n), apply_ite (Lut.mk n)]
  rfl

theorem threshold_spec (n k : Nat) : (Dyn.threshold n k).WF ∧
    (n < 64 → ∀ m, m < 2 ^ n → (Dyn.threshold n k).eval m = decide (k ≤ popc n m)) := by
  rw [threshold_eq]
  by_cases h0 : k = 0
  · rw [if_pos h0, h0]
    exact ⟨(one_spec n).1, fun _ m hm => by simpa using (one_spec n).2 m hm⟩
  by_cases hk : k > n
  · rw [if_neg h0, if_pos hk]
    exact ⟨Dyn.zero_WF n, fun _ m _ => (zero_of_gt hk m).2⟩
  · rw [if_neg h0, if_neg hk]
    exact ⟨(symmetric_spec n _).1, fun hn =>
      symmetric_pred n hn _ (fun s => decide (k ≤ s)) fun s hs => thresholdMask_bit k s hs⟩

theorem api_threshold (n : Nat) (hn : n < 64) (k : Nat) :
    (Dyn.threshold n k).n = n ∧ (Dyn.threshold n k).WF ∧
    ∀ m, m < 2 ^ n → (Dyn.threshold n k).eval m = decide (k ≤ popc n m) :=
  ⟨rfl, (threshold_spec n k).1, (threshold_spec n k).2 hn⟩

/-- the symmetric function of the odd counts -/
theorem parity_eq (n : Nat) : Dyn.parity n = Dyn.symmetric n 0xaaaaaaaaaaaaaaaa#64 := rfl

theorem api_parity (n : Nat) (hn : n < 64) :
    (Dyn.parity n).WF ∧ ∀ m, m < 2 ^ n → (Dyn.parity n).eval m = decide (popc n m % 2 = 1) := by
  rw [parity_eq]
  exact ⟨(symmetric_spec n _).1,
    symmetric_pred n hn _ (fun s => decide (s % 2 = 1)) fun s hs => parityMask_bit ⟨s, hs⟩⟩

theorem majority_eq (n : Nat) : Dyn.majority n = Dyn.threshold n ((n + 1) / 2) := rfl

theorem api_majority (n : Nat) (hn : n < 64) :
    (Dyn.majority n).WF ∧ ∀ m, m < 2 ^ n → (Dyn.majority n).eval m = decide ((n + 1) / 2 ≤ popc n m) := by
  rw [majority_eq]
  exact ⟨(threshold_spec n _).1, (threshold_spec n _).2 hn⟩

/-- non-vacuity: the statements are about non-trivial tables -/
example : Dyn.equals 3 1 = ⟨3, #[0x16#64]⟩ ∧ Dyn.majority 3 = ⟨3, #[0xe8#64]⟩ := by
  constructor <;> decide +kernel

end VoluteModel.Props.C11
