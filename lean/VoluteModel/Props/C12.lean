import VoluteModel.Lemmas.Cubes

/-!
# C12 - cube algebra: evaluation, conjunction, implication and intersection are semantic

The statements of the property, from the reading of the operations in `Lemmas/Cubes`.
-/

namespace VoluteModel.Props.C12
open VoluteModel.Cubes

/-- bit `v` of the assignment `m` as seen by the cube (`m as u32`) -/
def abit (m v : Nat) : Bool := (BitVec.ofNat 32 m).getLsbD v

theorem abit_eq (m v : Nat) (hv : v < 32) : abit m v = m.testBit v := ofNat_bit m hv

/-- all positive variables set, all negative variables clear -/
def Sem (c : Cube) (m : Nat) : Prop :=
  ∀ v, v < 32 → (c.pos.getLsbD v = true → abit m v = true) ∧ (c.neg.getLsbD v = true → abit m v = false)

/-- `value` is the semantic definition -/
theorem value_iff (c : Cube) (m : Nat) : c.value m = true ↔ Sem c m :=
  (value_lits_iff c m).trans
    ⟨fun h v hv => ⟨fun hp => (abit_eq m v hv).trans (h.1 v hp), fun hn => (abit_eq m v hv).trans (h.2 v hn)⟩,
     fun h => ⟨fun v hp => have hv := BitVec.lt_of_getLsbD hp; (abit_eq m v hv).symm.trans ((h v hv).1 hp),
       fun v hn => have hv := BitVec.lt_of_getLsbD hn; (abit_eq m v hv).symm.trans ((h v hv).2 hn)⟩⟩

/-- `is_zero`: a variable in both polarities -/
theorem isZero_iff (c : Cube) : c.isZero = true ↔ ∃ v, v < 32 ∧ c.pos.getLsbD v = true ∧ c.neg.getLsbD v = true :=
  (isZero_lits_iff c).trans
    ⟨fun ⟨v, hp, hn⟩ => ⟨v, BitVec.lt_of_getLsbD hp, hp, hn⟩, fun ⟨v, _, hp, hn⟩ => ⟨v, hp, hn⟩⟩

/-- `a & b` denotes the conjunction -/
theorem and_value (a b : Cube) (m : Nat) : (Cube.and a b).value m = (a.value m && b.value m) := by
  show (Cube.fromMask (a.pos ||| b.pos) (a.neg ||| b.neg)).value m = _
  rw [fromMask_value]
  apply Bool.eq_iff_iff.mpr
  rw [Bool.and_eq_true, value_lits_iff, value_lits_iff, value_lits_iff]
  simp only [BitVec.getLsbD_or, Bool.or_eq_true, or_imp, forall_and]
  exact and_and_and_comm

/-- the representation invariant of every cube built through the public API -/
def OK (c : Cube) : Prop := c.isZero = false ∨ c = Cube.zero

theorem fromMask_OK (p q : W32) : OK (Cube.fromMask p q) := by
  rw [fromMask_def]
  split
  · exact Or.inr rfl
  · rename_i h; exact Or.inl (Bool.not_eq_true _ ▸ h)

/-- `&` and `from_vars` keep it -/
theorem and_OK (a b : Cube) : OK (Cube.and a b) := fromMask_OK _ _

theorem fromVars_OK (p q : List Nat) : OK (Cube.fromVars p q) := fromMask_OK _ _

/-- the least satisfying assignment: exactly the positive variables -/
theorem witness (c : Cube) (h : c.isZero = false) : c.value c.pos.toNat = true :=
  (value_lits_iff c _).mpr ⟨fun _ hp => (BitVec.testBit_toNat ..).trans hp, fun _ hn =>
    (BitVec.testBit_toNat ..).trans (Bool.eq_false_iff.mpr fun hp => Bool.false_ne_true ((neg_of_pos h hp).symm.trans hn))⟩

theorem witness_neg (c : Cube) (h : c.isZero = false) : c.value (~~~ c.neg).toNat = true :=
  (value_lits_iff c _).mpr
    ⟨fun v hp => by rw [BitVec.testBit_toNat, not_bit _ (BitVec.lt_of_getLsbD hp), neg_of_pos h hp]; rfl,
     fun v hn => by rw [BitVec.testBit_toNat, not_bit _ (BitVec.lt_of_getLsbD hn), hn]; rfl⟩

/-- `implies` (containment) is semantic implication, on API cubes -/
theorem implies_iff (a b : Cube) (ha : OK a) (hb : OK b) :
    a.implies b = true ↔ ∀ m, a.value m = true → b.value m = true := by
  refine ⟨implies_sound a b, fun h => (implies_lits_iff a b).mpr ?_⟩
  rcases ha with ha | rfl
  · -- a satisfiable: its least and greatest satisfying assignments show the two containments
    obtain ⟨w1, _⟩ := (value_lits_iff b _).mp (h _ (witness a ha))
    obtain ⟨_, w2⟩ := (value_lits_iff b _).mp (h _ (witness_neg a ha))
    refine ⟨fun v hp => (BitVec.testBit_toNat ..).symm.trans (w1 v hp), fun v hn => ?_⟩
    have := w2 v hn
    rwa [BitVec.testBit_toNat, not_bit _ (BitVec.lt_of_getLsbD hn), Bool.not_eq_false'] at this
  · exact ⟨fun v hp => ones_bit v (BitVec.lt_of_getLsbD hp), fun v hn => ones_bit v (BitVec.lt_of_getLsbD hn)⟩

/-- `intersects`: some assignment satisfies both -/
theorem intersects_iff (a b : Cube) : a.intersects b = true ↔ ∃ m, a.value m = true ∧ b.value m = true := by
  unfold Cube.intersects
  rw [bne_iff_ne]
  constructor
  · intro hne
    rcases and_OK a b with hok | hz
    · refine ⟨(Cube.and a b).pos.toNat, ?_⟩
      have := witness _ hok
      rwa [and_value, Bool.and_eq_true] at this
    · exact absurd hz hne
  · rintro ⟨m, ha, hb⟩
    exact ne_zero_of_value (m := m) (by rw [and_value, ha, hb]; rfl)

/-- equality of API cubes is semantic equality -/
theorem eq_iff_sem (a b : Cube) (ha : OK a) (hb : OK b) : a = b ↔ ∀ m, a.value m = b.value m :=
  ⟨fun h m => by rw [h], fun h => implies_antisymm a b
    ((implies_iff a b ha hb).mpr fun m hm => (h m).symm.trans hm)
    ((implies_iff b a hb ha).mpr fun m hm => (h m).trans hm)⟩

/-- `implies_lut`: the cube is an implicant of f -/
theorem impliesLut_iff (c : Cube) (l : Lut) :
    c.impliesLut l = true ↔ ∀ m, m < 2 ^ l.n → c.value m = true → getBit l.t m = true :=
  implicant_loop_iff c.value l

/-- the mask `tot` of the first `n` variables in `minterm` -/
theorem tot_bit (n v : Nat) (hv : v < 32) :
    (if n ≥ 32 then ~~~ (0 : W32) else (1#32 <<< n) - 1).getLsbD v = decide (v < n) := by
  split
  · rename_i h
    rw [ones_bit v hv, decide_eq_true (Nat.lt_of_lt_of_le hv h)]
  · have : ((1#32 <<< n) - 1 : W32) = BitVec.ofNat 32 (2 ^ n - 1) := by
      rw [← BitVec.ofNat_sub_ofNat_of_le (2 ^ n) 1 (by decide) (Nat.two_pow_pos n)]
      exact congrArg (· - 1#32) (BitVec.eq_of_toNat_eq (by
        rw [BitVec.toNat_shiftLeft, BitVec.toNat_ofNat, BitVec.toNat_ofNat, Nat.one_shiftLeft]))
    rw [this, ofNat_bit _ hv, Nat.testBit_two_pow_sub_one]

/-- `minterm(n, m)`, n <= 32: true where the assignment agrees with m on the first n variables -/
theorem minterm_value (n m a : Nat) (hn : n ≤ 32) :
    (Cube.minterm n m).value a = true ↔ ∀ v, v < n → abit a v = abit m v := by
  rw [value_lits_iff]
  simp only [Cube.minterm, BitVec.getLsbD_and, Bool.and_eq_true]
  -- a literal of variable `v` is present iff `v < n`, its polarity is bit `v` of `m`
  have lt_n : ∀ {v}, (if n ≥ 32 then ~~~ (0 : W32) else (1#32 <<< n) - 1).getLsbD v = true → v < n :=
    fun ht => of_decide_eq_true ((tot_bit n _ (BitVec.lt_of_getLsbD ht)).symm.trans ht)
  constructor
  · rintro ⟨hp, hq⟩ v hv
    have hv32 := Nat.lt_of_lt_of_le hv hn
    have ht := (tot_bit n v hv32).trans (decide_eq_true hv)
    rw [abit_eq a v hv32]
    cases hm : abit m v
    · exact hq v ⟨(not_bit _ hv32).trans (congrArg (!·) hm), ht⟩
    · exact hp v ⟨hm, ht⟩
  · intro h
    have ha : ∀ {v}, v < n → a.testBit v = abit m v := fun hv =>
      (abit_eq a _ (Nat.lt_of_lt_of_le hv hn)).symm.trans (h _ hv)
    refine ⟨fun v hl => (ha (lt_n hl.2)).trans hl.1, fun v hl => (ha (lt_n hl.2)).trans ?_⟩
    obtain ⟨hm, ht⟩ := hl
    rwa [not_bit _ (BitVec.lt_of_getLsbD ht), Bool.not_eq_true'] at hm

/-- below `2^n`, `minterm(n, k)` is true at `k` only -/
theorem minterm_value_eq (n k m : Nat) (hn : n ≤ 32) (hk : k < 2 ^ n) (hm : m < 2 ^ n) :
    (Cube.minterm n k).value m = true ↔ k = m := by
  rw [minterm_value n k m hn, eq_comm, eq_iff_testBit_lt hm hk]
  refine forall_congr' fun v => imp_congr_right fun hv => ?_
  rw [abit_eq m v (Nat.lt_of_lt_of_le hv hn), abit_eq k v (Nat.lt_of_lt_of_le hv hn)]

/-- `num_lits` (0 for a contradictory cube); `num_gates` is one less -/
theorem counts (c : Cube) : c.numLits = (if c.isZero then 0 else popc 32 c.pos.toNat + popc 32 c.neg.toNat) ∧
    c.numGates = c.numLits - 1 := by
  refine ⟨rfl, ?_⟩
  unfold Cube.numGates
  cases c.numLits with
  | zero => rfl
  | succ n => rw [Nat.max_eq_left (Nat.le_add_left 1 n)]

/-- `Cube::all(n)`: 3^n cubes, none contradictory (n <= 5) -/
theorem all_count : ∀ n : Fin 6, (Cube.all n.val).length = 3 ^ n.val ∧
    (Cube.all n.val).all (fun c => !c.isZero) = true :=
  fun n => ⟨all_length n.val (by omega), List.all_eq_true.mpr fun _ hc => (List.mem_filter.mp hc).2⟩

/-- non-vacuity: `&` unites literal sets, a clash gives zero; `minterm` on the `n >= 32` branch of its mask -/
example : Cube.and ⟨1, 2⟩ ⟨4, 0⟩ = ⟨5, 2⟩ ∧ Cube.and ⟨1, 2⟩ ⟨2, 0⟩ = Cube.zero ∧
    (Cube.minterm 32 0xfffffffe).value 0xfffffffe = true := by decide +kernel

end VoluteModel.Props.C12
