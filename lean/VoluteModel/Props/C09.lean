import VoluteModel.Lemmas.TextLemmas
import VoluteModel.Model.Api

/-!
# C09 - text forms are exact and fixed-width; parsing accepts exactly well-formed input

Both directions go through the number the table denotes (`toNatLE`): the strings are its digits
(`toHex_eq`, `toBin_eq`), and parsing accepts exactly the digit strings of numbers below `2^(2^n)`.
-/

namespace VoluteModel.Props.C09

theorem hexStrSize_ge6 {n : Nat} (h : 6 ≤ n) : hexStrSize n = 16 := by rw [hexStrSize, if_pos h]

theorem width_bounds (n : Nat) : 1 ≤ hexStrSize n ∧ hexStrSize n ≤ 16 := by
  by_cases h6 : 6 ≤ n
  · rw [hexStrSize_ge6 h6]; decide
  · exact (by decide : ∀ n : Fin 6, 1 ≤ hexStrSize n.val ∧ hexStrSize n.val ≤ 16) ⟨n, Nat.lt_of_not_le h6⟩

/-- a word holds `min (2^n) 64` bits of the table (`wordBits_split`); its hex digits cover them -/
theorem wordBits_le (n : Nat) : min (2 ^ n) 64 ≤ 4 * hexStrSize n := by
  by_cases h6 : 6 ≤ n
  · rw [hexStrSize_ge6 h6]; exact Nat.min_le_right _ _
  · exact Nat.le_trans (Nat.min_le_left _ _)
      ((by decide : ∀ n : Fin 6, 2 ^ n.val ≤ 4 * hexStrSize n.val) ⟨n, Nat.lt_of_not_le h6⟩)

/-- `(wordBits_split n).2` for the digits -/
theorem full_or_single (n : Nat) : 4 * hexStrSize n = 64 ∨ tableSize n ≤ 1 :=
  (wordBits_split n).2.imp_left fun (h : min (2 ^ n) 64 = 64) =>
    Nat.le_antisymm (Nat.mul_le_mul_left 4 (width_bounds n).2) (h ▸ wordBits_le n)

/-- `{:0width$x}` pads to at least `width` digits; a word that fits gets exactly `width` -/
theorem fmtHexWord_exact (width : Nat) (w : W) (h1 : 1 ≤ width) (h2 : width ≤ 16)
    (hfit : w.toNat < 2 ^ (4 * width)) :
    fmtHexWord width w = (digitsFixed 4 w.toNat width).map hexDigit := by
  rw [fmtHexWord, Nat.max_eq_left (numDigits_le 4 w.toNat 16 width hfit h1 (Nat.le_succ_of_le h2))]

/-- digit `i` from the right of a printed word is the value of bits 4i..4i+3 -/
theorem hexDigit_of_word (width : Nat) (w : W) (h1 : 1 ≤ width) (h2 : width ≤ 16)
    (hfit : w.toNat < 2 ^ (4 * width)) (i : Nat) (hi : i < width) :
    (fmtHexWord width w)[width - 1 - i]? = some (hexDigit (w.toNat / 2 ^ (4 * i) % 16)) := by
  rw [fmtHexWord_exact width w h1 h2 hfit, List.getElem?_map, digitsFixed_getElem 4 _ _ i hi]
  rfl

/-- C09, `to_hex_string`: the table's number in base 16, most significant digit first -/
theorem toHex_eq (n : Nat) (t : Array W) (h : WF n t) :
    toHex n t = (digitsFixed 4 (toNatLE t.toList) (hexStrSize n * t.size)).map hexDigit := by
  obtain ⟨b1, b2⟩ := width_bounds n
  exact flatMap_digits 4 _ hexDigit _ _ (fun w hw => fmtHexWord_exact _ w b1 b2
      (Nat.lt_of_lt_of_le (WF_word_lt h hw) (Nat.pow_le_pow_right (by decide) (wordBits_le n))))
    (by rw [Array.length_toList, h.1]; exact full_or_single n)

theorem toHex_length (n : Nat) (t : Array W) (h : WF n t) :
    (toHex n t).length = hexStrSize n * t.size := by
  rw [toHex_eq n t h, List.length_map, digitsFixed_length]

/-- enough digits to write the table's number -/
theorem ofDigits_hexWidth (n : Nat) (t : Array W) (h : WF n t) :
    ofDigits 4 (digitsFixed 4 (toNatLE t.toList) (hexStrSize n * t.size)) = toNatLE t.toList := by
  rw [ofDigits_digitsFixed, h.1]
  refine Nat.mod_eq_of_lt (Nat.lt_of_lt_of_le (toNatLE_lt_of_WF h) (Nat.pow_le_pow_right (by decide) ?_))
  rw [← Nat.mul_assoc, ← (wordBits_split n).1]
  exact Nat.mul_le_mul_right _ (wordBits_le n)

theorem toHex_isHex (l : Lut) (hl : l.WF) : ∀ c ∈ Dyn.toHexString l, isHexDigit c = true := by
  intro c hc
  rw [Dyn.toHexString, toHex_eq l.n l.t hl] at hc
  obtain ⟨d, hd, rfl⟩ := List.mem_map.mp hc
  rw [isHexDigit, hexVal_hexDigit d (digitsFixed_lt 4 _ _ d hd)]; rfl

/-- C09, width of `to_hex_string` -/
theorem toHex_width (n : Nat) (t : Array W) (h : WF n t) :
    (toHex n t).length = max 1 (2 ^ n / 4) := by
  rw [toHex_length n t h, h.1]
  by_cases h6 : 6 ≤ n
  · rw [hexStrSize_ge6 h6, ← tableSize_mul_64 h6, show 64 = 16 * 4 from rfl, ← Nat.mul_assoc,
      Nat.mul_div_cancel _ (by decide), Nat.mul_comm, Nat.max_eq_right (Nat.mul_pos (tableSize_pos n) (by decide))]
  · rw [tableSize_le6 (Nat.le_of_not_le h6), Nat.mul_one]
    exact (by decide : ∀ n : Fin 6, hexStrSize n.val = max 1 (2 ^ n.val / 4)) ⟨n, Nat.lt_of_not_le h6⟩

theorem fmtBinWord_exact (width : Nat) (w : W) (h1 : 1 ≤ width) (h2 : width ≤ 64) (hfit : w.toNat < 2 ^ width) :
    fmtBinWord width w = (digitsFixed 1 w.toNat width).map (fun d => 48 + d) := by
  rw [fmtBinWord, Nat.max_eq_left (numDigits_le 1 w.toNat 64 width ((Nat.one_mul width).symm ▸ hfit) h1
    (Nat.le_succ_of_le h2))]

/-- C09, `to_bin_string`: the table's number in base 2, most significant digit first -/
theorem toBin_eq (n : Nat) (t : Array W) (h : WF n t) :
    toBin n t = (digitsFixed 1 (toNatLE t.toList) (2 ^ n)).map (fun d => 48 + d) := by
  obtain ⟨hbits, hc⟩ := wordBits_split n
  have hpos : 1 ≤ min (2 ^ n) 64 := Nat.le_min.mpr ⟨Nat.two_pow_pos n, by decide⟩
  have hwidth : (if n ≥ 6 then 64 else 1 <<< n) = min (2 ^ n) 64 := by
    by_cases h6 : n ≥ 6
    · rw [if_pos h6, Nat.min_eq_right (le_two_pow_of_ge6 h6)]
    · rw [if_neg h6, Nat.one_shiftLeft, Nat.min_eq_left (two_pow_le_64 (Nat.le_of_not_le h6))]
  rw [← h.1, ← Array.length_toList] at hbits hc
  rw [toBin, hwidth, flatMap_digits 1 _ _ _ _
    (fun w hw => fmtBinWord_exact _ w hpos (Nat.min_le_right _ _) (WF_word_lt h hw))
    (by rw [Nat.one_mul]; exact hc), hbits]

/-- C09, width of `to_bin_string` -/
theorem toBin_width (n : Nat) (t : Array W) (h : WF n t) : (toBin n t).length = 2 ^ n := by
  rw [toBin_eq n t h, List.length_map, digitsFixed_length]

/-- the digit at distance `m` from the right end is the value on assignment `m` -/
theorem toBin_digit (n : Nat) (t : Array W) (h : WF n t) (m : Nat) (hm : m < 2 ^ n) :
    (toBin n t)[2 ^ n - 1 - m]? = some (48 + (if bit t m then 1 else 0)) := by
  rw [toBin_eq n t h, List.getElem?_map, digitsFixed_getElem 1 _ _ m hm, ← toNatLE_testBit_array, Nat.one_mul,
    Nat.pow_one, ← Nat.toNat_testBit]
  cases (toNatLE t.toList).testBit m <;> rfl

/-- Display / LowerHex / Binary: `Lut{n}({digits})`, e.g. `Lut3(e8)`; `[76, 117, 116]` is "Lut", 40 and 41 `(` `)` -/
theorem display_wrap (l : Lut) : Dyn.display l = [76, 117, 116] ++ decDigits l.n ++ [40] ++ Dyn.toHexString l ++ [41] ∧
    Dyn.lowerHex l = Dyn.display l ∧
    Dyn.binary l = [76, 117, 116] ++ decDigits l.n ++ [40] ++ Dyn.toBinString l ++ [41] :=
  ⟨rfl, rfl, rfl⟩

/-- the number written by a string of hex digits (either case) -/
def hexDenote (s : List Nat) : Nat := ofDigits 4 (s.map (fun c => (hexVal c).getD 0))

/-! `ofDigits_cons / _append / _lt` through the map inside `hexDenote`, as rewrite rules -/

theorem hexDenote_cons (c : Nat) (cs : List Nat) :
    hexDenote (c :: cs) = hexDenote cs + 2 ^ (4 * cs.length) * (hexVal c).getD 0 := by
  rw [hexDenote, List.map_cons, ofDigits_cons, List.length_map]; rfl

theorem hexDenote_append (a b : List Nat) :
    hexDenote (a ++ b) = hexDenote b + 2 ^ (4 * b.length) * hexDenote a := by
  rw [hexDenote, List.map_append, ofDigits_append, List.length_map]; rfl

theorem hexDenote_lt (s : List Nat) (h : ∀ c ∈ s, isHexDigit c = true) : hexDenote s < 2 ^ (4 * s.length) := by
  rw [← List.length_map (fun c => (hexVal c).getD 0)]
  refine ofDigits_lt 4 _ fun d hd => ?_
  obtain ⟨c, hc, rfl⟩ := List.mem_map.mp hd
  obtain ⟨d, hd, hd16, _⟩ := isHexDigit_spec (h c hc)
  rw [hd]; exact hd16

theorem hexDenote_lt_word (s : List Nat) (h16 : s.length ≤ 16) (h : ∀ c ∈ s, isHexDigit c = true) :
    hexDenote s < 2 ^ 64 :=
  Nat.lt_of_lt_of_le (hexDenote_lt s h) (Nat.pow_le_pow_right (by decide) (Nat.mul_le_mul_left 4 h16))

theorem hexDenote_map_hexDigit (ds : List Nat) (h : ∀ d ∈ ds, d < 16) : hexDenote (ds.map hexDigit) = ofDigits 4 ds := by
  rw [hexDenote, List.map_map]
  refine congrArg _ ((List.map_congr_left fun d hd => ?_).trans (List.map_id ds))
  rw [Function.comp, hexVal_hexDigit d (h d hd)]; rfl

theorem hexDenote_toHex (l : Lut) (hl : l.WF) : hexDenote (Dyn.toHexString l) = toNatLE l.t.toList := by
  rw [Dyn.toHexString, toHex_eq l.n l.t hl, hexDenote_map_hexDigit _ (digitsFixed_lt 4 _ _), ofDigits_hexWidth l.n l.t hl]

theorem parse_hex (s : List Nat) (acc : Nat) (hacc : acc < 2 ^ 64) (h : ∀ c ∈ s, isHexDigit c = true) :
    parseHexDigits s acc =
      if hexDenote s + 2 ^ (4 * s.length) * acc < 2 ^ 64 then some (hexDenote s + 2 ^ (4 * s.length) * acc) else none := by
  induction s generalizing acc with
  | nil =>
    rw [show hexDenote [] = 0 from rfl, List.length_nil, Nat.mul_zero, Nat.pow_zero, Nat.one_mul, Nat.zero_add, if_pos hacc]; rfl
  | cons c cs ih =>
    obtain ⟨d, hd, _⟩ := isHexDigit_spec (h c List.mem_cons_self)
    have etot : hexDenote (c :: cs) + 2 ^ (4 * (c :: cs).length) * acc
        = hexDenote cs + 2 ^ (4 * cs.length) * (acc * 16 + d) := by
      rw [hexDenote_cons, hd, Option.getD_some, List.length_cons, Nat.mul_succ, Nat.pow_add, Nat.mul_add,
        Nat.mul_assoc, Nat.mul_comm acc, Nat.add_assoc, Nat.add_comm (_ * d)]
    rw [etot, parseHexDigits, hd]
    by_cases ha : acc * 16 + d < 2 ^ 64
    · exact (if_pos ha).trans (ih (acc * 16 + d) ha fun x hx => h x (List.mem_cons_of_mem _ hx))
    · exact (if_neg ha).trans (if_neg (Nat.not_lt.mpr (Nat.le_trans (Nat.le_of_not_lt ha)
        (Nat.le_trans (Nat.le_mul_of_pos_left _ (Nat.two_pow_pos _)) (Nat.le_add_left _ _))))).symm

theorem fromStrRadix16_hex (s : List Nat) (h1 : 1 ≤ s.length) (h16 : s.length ≤ 16)
    (h : ∀ c ∈ s, isHexDigit c = true) : fromStrRadix16 s = some (hexDenote s) := by
  have hlt := hexDenote_lt_word s h16 h
  match s, h1, h with
  | c :: cs, _, h =>
    obtain ⟨_, _, _, _, hne⟩ := isHexDigit_spec (h c List.mem_cons_self)
    have : fromStrRadix16 (c :: cs) = parseHexDigits (c :: cs) 0 := by
      unfold fromStrRadix16
      split
      · rename_i heq; cases heq
      · rename_i heq; cases heq; exact absurd rfl hne
      · rename_i heq; cases heq; exact absurd rfl hne
      · rfl
    rw [this, parse_hex (c :: cs) 0 (by decide) h, Nat.mul_zero, Nat.add_zero, if_pos hlt]

theorem fill_succ (width : Nat) (mask : W) (hw1 : 1 ≤ width) (hw16 : width ≤ 16) (k : Nat) (s : List Nat)
    (hlen : s.length = width * (k + 1)) (hhex : ∀ c ∈ s, isHexDigit c = true) :
    fillHexWords width mask (k + 1) s =
      if BitVec.ofNat 64 (hexDenote (s.take width)) &&& ~~~ mask != 0#64 then none
      else (fillHexWords width mask k (s.drop width)).map (· ++ [BitVec.ofNat 64 (hexDenote (s.take width))]) := by
  have htake : (s.take width).length = width := by
    rw [List.length_take, hlen, Nat.mul_succ]; exact Nat.min_eq_left (Nat.le_add_left _ _)
  rw [fillHexWords, fromStrRadix16_hex (s.take width) (htake.symm ▸ hw1) (htake.symm ▸ hw16)
    fun c hc => hhex c (List.mem_of_mem_take hc)]
  cases fillHexWords width mask k (s.drop width) <;> rfl

/-- `hk` as `hc` in `flatMap_digits` -/
theorem fill_iff (width : Nat) (mask : W) (hw1 : 1 ≤ width) (hw16 : width ≤ 16) (k : Nat) (s : List Nat) (ws : List W)
    (hk : 4 * width = 64 ∨ k ≤ 1) (hlen : s.length = width * k) (hhex : ∀ c ∈ s, isHexDigit c = true) :
    fillHexWords width mask k s = some ws ↔
      ws.length = k ∧ (∀ w ∈ ws, w &&& ~~~ mask = 0#64) ∧ toNatLE ws = hexDenote s := by
  induction k generalizing s ws with
  | zero =>
    cases List.eq_nil_of_length_eq_zero hlen
    constructor
    · intro h; cases h; exact ⟨rfl, fun _ h => absurd h List.not_mem_nil, rfl⟩
    · intro h; rw [List.eq_nil_of_length_eq_zero h.1]; rfl
  | succ k ih =>
    have hdrop : (s.drop width).length = width * k := by rw [List.length_drop, hlen, Nat.mul_succ, Nat.add_sub_cancel]
    have hhd : ∀ c ∈ s.drop width, isHexDigit c = true := fun c hc => hhex c (List.mem_of_mem_drop hc)
    have hv := hexDenote_lt_word (s.take width) (Nat.le_trans (List.length_take_le _ _) hw16)
      fun c hc => hhex c (List.mem_of_mem_take hc)
    have hp : 4 * (s.drop width).length = 64 * k := by
      rw [hdrop]
      rcases hk with hk | hk
      · rw [← Nat.mul_assoc, hk]
      · rw [Nat.le_zero.mp (Nat.le_of_succ_le_succ hk), Nat.mul_zero, Nat.mul_zero]
    -- the first chunk holds the most significant digits
    have hs : hexDenote s = hexDenote (s.drop width) + 2 ^ (64 * k) * hexDenote (s.take width) := by
      rw [← hp, ← hexDenote_append, List.take_append_drop]
    have ih := fun ws' => ih (s.drop width) ws' (hk.imp_right Nat.le_of_succ_le) hdrop hhd
    rw [fill_succ width mask hw1 hw16 k s hlen hhex, hs]
    simp only [Option.ite_none_left_eq_some, Option.map_eq_some_iff, bv_bne_iff, ne_eq, Decidable.not_not]
    constructor
    · rintro ⟨hm, ws', hrec, rfl⟩
      obtain ⟨l1, m1, v1⟩ := (ih ws').mp hrec
      refine ⟨by rw [List.length_append, l1]; rfl, fun w hw => ?_, ?_⟩
      · exact (List.mem_append.mp hw).elim (m1 w) fun hw => List.mem_singleton.mp hw ▸ hm
      · rw [toNatLE_append, toNatLE_singleton, v1, l1, BitVec.toNat_ofNat, Nat.mod_eq_of_lt hv]
    · rintro ⟨hl, hm, hval⟩
      rcases List.eq_nil_or_concat ws with rfl | ⟨ws', w, rfl⟩
      · cases hl
      rw [List.concat_eq_append] at hl hm hval ⊢
      have l1 : ws'.length = k := by rw [List.length_append] at hl; exact Nat.succ.inj hl
      -- positional notation is unique: the last word is the first chunk
      rw [toNatLE_append, toNatLE_singleton, l1] at hval
      have hlt := hexDenote_lt _ hhd
      rw [hp] at hlt
      obtain ⟨v1, v2⟩ := add_mul_inj (l1 ▸ toNatLE_lt ws') hlt hval
      rw [← v2, BitVec.ofNat_toNat, BitVec.setWidth_eq]
      exact ⟨hm w (List.mem_append_right _ List.mem_cons_self), ws',
        (ih ws').mpr ⟨l1, fun x hx => hm x (List.mem_append_left _ hx), v1⟩, rfl⟩

theorem fromHex_eq_some (n : Nat) (s : List Nat) (l : Lut) :
    Dyn.fromHexString n s = some l ↔
      s.length = hexStrSize n * tableSize n ∧ (∀ c ∈ s, isHexDigit c = true) ∧
      ∃ ws, fillHexWords (hexStrSize n) (numVarsMask n) (tableSize n) s = some ws ∧ l = ⟨n, ws.toArray⟩ := by
  -- a guard `if p then none else b` is `some` when `¬p` and `b` is `some`
  simp only [Dyn.fromHexString, fillHex, Option.map_eq_some_iff, Option.ite_none_left_eq_some, ne_eq, Decidable.not_not,
    Bool.not_eq_true', Bool.not_eq_false, List.all_eq_true, List.any_eq_true]
  constructor
  · rintro ⟨_, ⟨_, hlen, hhex, ws, hws, rfl⟩, rfl⟩
    exact ⟨hlen, hhex, ws, hws, rfl⟩
  · rintro ⟨hlen, hhex, ws, hws, rfl⟩
    refine ⟨_, ⟨?_, hlen, hhex, ws, hws, rfl⟩, rfl⟩
    -- the check for ASCII never fires on hex digits
    rintro ⟨c, hc, hge⟩
    obtain ⟨_, _, _, h128, _⟩ := isHexDigit_spec (hhex c hc)
    exact Nat.not_le.mpr h128 (of_decide_eq_true hge)

/-- C09, `from_hex_string`: `Ok(l)` exactly when `s` is the right number of hex digits (either case) and `l` the
    well-formed table of the number written, which is therefore below 2^(2^n); everything else is `Err` -/
theorem fromHex_iff (n : Nat) (s : List Nat) (l : Lut) :
    Dyn.fromHexString n s = some l ↔
      s.length = hexStrSize n * tableSize n ∧ (∀ c ∈ s, isHexDigit c = true) ∧
      l.n = n ∧ l.WF ∧ toNatLE l.t.toList = hexDenote s := by
  obtain ⟨b1, b2⟩ := width_bounds n
  rw [fromHex_eq_some]
  refine and_congr_right fun hlen => and_congr_right fun hhex => ?_
  simp only [fill_iff _ _ b1 b2 _ s _ (full_or_single n) hlen hhex]
  constructor
  · rintro ⟨ws, ⟨h1, h2, h3⟩, rfl⟩
    exact ⟨rfl, (WF_iff_mem _ _).mpr ⟨h1, h2⟩, h3⟩
  · rintro ⟨rfl, hwf, hval⟩
    obtain ⟨h1, h2⟩ := (WF_iff_mem _ _).mp hwf
    exact ⟨l.t.toList, ⟨by rw [Array.length_toList, h1], h2, hval⟩, rfl⟩

/-- never a malformed table -/
theorem fromHex_WF (n : Nat) (s : List Nat) (l : Lut) (h : Dyn.fromHexString n s = some l) : l.n = n ∧ l.WF :=
  have ⟨_, _, hn, hwf, _⟩ := (fromHex_iff n s l).mp h
  ⟨hn, hwf⟩

/-- rejected: wrong length, any non-hex character (sign, blank, letters beyond f, non-ASCII) -/
theorem fromHex_rejects (n : Nat) (s : List Nat)
    (h : s.length ≠ hexStrSize n * tableSize n ∨ ∃ c ∈ s, isHexDigit c = false) :
    Dyn.fromHexString n s = none := by
  cases hr : Dyn.fromHexString n s with
  | none => rfl
  | some l =>
    obtain ⟨hlen, hhex, _⟩ := (fromHex_iff n s l).mp hr
    rcases h with h | ⟨c, hc, hx⟩
    · exact absurd hlen h
    · rw [hhex c hc] at hx; cases hx

/-- C09, round trip -/
theorem fromHex_toHex (l : Lut) (hl : l.WF) : Dyn.fromHexString l.n (Dyn.toHexString l) = some l :=
  (fromHex_iff l.n _ l).mpr
    ⟨by rw [Dyn.toHexString, toHex_length l.n l.t hl, hl.1], toHex_isHex l hl, rfl, hl, (hexDenote_toHex l hl).symm⟩

/-- most significant bit first -/
example : toBin 2 #[0b0110#64] = [48, 49, 49, 48] := by decide

/-- '+', '-', blank, 'g', 'x' and the non-ASCII byte 195 are not hex digits; 'F' and 'f' are -/
example : isHexDigit 43 = false ∧ isHexDigit 45 = false ∧ isHexDigit 32 = false ∧ isHexDigit 103 = false ∧
    isHexDigit 120 = false ∧ isHexDigit 195 = false ∧ isHexDigit 70 = true ∧ isHexDigit 102 = true := by decide

/-- a digit too large for the table: "f" for one variable; a sign is not a digit: "+f" for three -/
example : Dyn.fromHexString 1 [102] = none ∧ Dyn.fromHexString 1 [51] = some ⟨1, #[3#64]⟩ ∧
    Dyn.fromHexString 3 [43, 102] = none := by decide +kernel

end VoluteModel.Props.C09
