import VoluteModel.Model.Api
import VoluteModel.Lemmas.InWord
import VoluteModel.Lemmas.Guards
import VoluteModel.Props.C10
import VoluteModel.Props.C06

/-!
# C17 - invalid indices and size mismatches panic; builds with and without checks agree

The `assert!` guards are complete and exact, independent of `debug_assert!`; on valid arguments the
modelled word arithmetic cannot overflow or underflow.  The behaviour of two compiled binaries is the
two-profile run, not a theorem.
-/

namespace VoluteModel.Props.C17

/-! C17, panics: one statement per entry point, `call = none ↔ the argument is invalid` (`none` is the
panic): an index `>= n`, an assignment `>= 2^n`, a table of another size, a slice of the wrong length. -/

theorem nthVar_none (n i : Nat) : Dyn.nthVar n i = none ↔ ¬ i < n := guard_none

theorem getBit_none (l : Lut) (m : Nat) : Dyn.getBit l m = none ↔ ¬ m < 2 ^ l.n := by
  rw [Dyn.getBit, guard_none, Dyn.checkBit_iff]

theorem setBit_none (l : Lut) (m : Nat) : Dyn.setBit l m = none ↔ ¬ m < 2 ^ l.n := by
  rw [Dyn.setBit, guard_none, Dyn.checkBit_iff]

theorem unsetBit_none (l : Lut) (m : Nat) : Dyn.unsetBit l m = none ↔ ¬ m < 2 ^ l.n := by
  rw [Dyn.unsetBit, guard_none, Dyn.checkBit_iff]

theorem setValue_none (l : Lut) (m : Nat) (v : Bool) : Dyn.setValue l m v = none ↔ ¬ m < 2 ^ l.n := by
  unfold Dyn.setValue; split
  · exact setBit_none l m
  · exact unsetBit_none l m

theorem flip_none (l : Lut) (i : Nat) : Dyn.flip l i = none ↔ ¬ i < l.n := by
  rw [Dyn.flip, Dyn.flipInplace, guard_none, Dyn.checkVar_iff]

theorem swap_none (l : Lut) (i j : Nat) : Dyn.swap l i j = none ↔ ¬ (i < l.n ∧ j < l.n) := by
  rw [Dyn.swap, Dyn.swapInplace, guard_none, Bool.and_eq_true, Dyn.checkVar_iff, Dyn.checkVar_iff]

theorem swapAdjacent_none (l : Lut) (i : Nat) : Dyn.swapAdjacent l i = none ↔ ¬ (i < l.n ∧ i + 1 < l.n) := by
  rw [Dyn.swapAdjacent, Dyn.swapAdjacentInplace, guard_none, Bool.and_eq_true, Dyn.checkVar_iff, Dyn.checkVar_iff]

theorem cofactors_none (l : Lut) (i : Nat) : Dyn.cofactors l i = none ↔ ¬ i < l.n := by
  rw [Dyn.cofactors, guard_none, Dyn.checkVar_iff]

theorem stat_fromCofactors_none (c0 c1 : Lut) (i : Nat) : Stat.fromCofactors c0 c1 i = none ↔ ¬ i < c0.n := by
  rw [← Dyn.checkVar_iff, Stat.fromCofactors]
  cases Dyn.checkVar c0 i <;> simp

/-- the dynamic type asserts equal sizes before it does what the static type does -/
theorem fromCofactors_none (c0 c1 : Lut) (i : Nat) :
    Dyn.fromCofactors c0 c1 i = none ↔ (c0.n ≠ c1.n ∨ ¬ i < c0.n) := by
  rw [C10.fromCofactors_factor, ite_eq_left_iff, ← Decidable.or_iff_not_imp_left, bne_iff_ne, stat_fromCofactors_none]

theorem binForm_none (op form : Nat) (a b : Lut) : Dyn.binForm op form a b = none ↔ a.n ≠ b.n := by
  rw [C01.binForm_factor]
  exact guard_none.trans (not_congr beq_iff_eq)

/-- the operators of `StaticLut` have no size assertion (`rfl`: the model mirrors the source) -/
theorem stat_binForm_some (op form : Nat) (a b : Lut) : (Stat.binForm op form a b).isSome = true := rfl

theorem fromBlocks_none (n : Nat) (b : Array W) :
    (Dyn.fromBlocks n b = none ↔ b.size ≠ tableSize n) ∧ (Stat.fromBlocks n b = none ↔ b.size ≠ tableSize n) :=
  ⟨by rw [Dyn.fromBlocks, guard_none, beq_iff_eq], by rw [Stat.fromBlocks, guard_none, beq_iff_eq]⟩

/-- the decomposition helper has its own always-on assertions -/
theorem decomposition_none (l : Lut) (v : Nat) (hs : l.t.size = tableSize l.n) :
    (Dyn.topDecomposition l v = none ↔ ¬ v < l.n) ∧ (Dyn.isPosUnate l v = none ↔ ¬ v < l.n) ∧
    (Dyn.isNegUnate l v = none ↔ ¬ v < l.n) := by
  unfold Dyn.topDecomposition Dyn.isPosUnate Dyn.isNegUnate
  by_cases hv : v < l.n
  · rw [C06.top_spec l.n l.t hs v hv, C06.posUnate_spec l.n l.t hs v hv, C06.negUnate_spec l.n l.t hs v hv]
    simp [hv]
  · have hn := fun op => C06.helper_none l.n l.t v op (.inr hv)
    rw [topDecomposition, inputIndependent, inputPosUnate, inputNegUnate, hn, hn, hn]
    simp [hv]

/-- this direction only; the iff is `C07.dyn_panics_iff` -/
theorem bdd_mixed_none (l0 : Lut) (ls : List Lut) (h : ∃ l ∈ l0 :: ls, l.n ≠ l0.n) :
    Dyn.bddComplexity (l0 :: ls) = none := by
  obtain ⟨l, hl, hne⟩ := h
  rw [C10.bdd_factor, if_neg fun hall => hne (beq_iff_eq.mp (List.all_eq_true.mp hall l hl))]

/-! C17, no overflow: the `+` of the in-word kernels of flip, the cofactors, `from_cofactors` and the mixed
swap adds two of the terms A-E of `Lemmas/InWord.lean`, which bit `i` of the position separates; such
words add without carry (`toNat_add_of_guard`). -/

theorem flip_no_overflow (i : Nat) (hi : i < 6) (t : W) :
    (((t &&& varMask i) >>> (2 ^ i)) + ((t &&& ~~~ varMask i) <<< (2 ^ i))).toNat =
      ((t &&& varMask i) >>> (2 ^ i)).toNat + ((t &&& ~~~ varMask i) <<< (2 ^ i)).toNat :=
  toNat_add_of_guard (fun k => k.testBit i) (termA i hi t) (termB i hi t)

theorem cof0_no_overflow (i : Nat) (hi : i < 6) (t : W) :
    ((t &&& ~~~ varMask i) + ((t &&& ~~~ varMask i) <<< (2 ^ i))).toNat =
      (t &&& ~~~ varMask i).toNat + ((t &&& ~~~ varMask i) <<< (2 ^ i)).toNat :=
  toNat_add_of_guard (fun k => k.testBit i) (termD i hi t) (termB i hi t)

theorem cof1_no_overflow (i : Nat) (hi : i < 6) (t : W) :
    (((t &&& varMask i) >>> (2 ^ i)) + (t &&& varMask i)).toNat =
      ((t &&& varMask i) >>> (2 ^ i)).toNat + (t &&& varMask i).toNat :=
  toNat_add_of_guard (fun k => k.testBit i) (termA i hi t) (termC i hi t)

theorem fromCof_no_overflow (i : Nat) (hi : i < 6) (t0 t1 : W) :
    ((t1 &&& varMask i) + (t0 &&& ~~~ varMask i)).toNat = (t1 &&& varMask i).toNat + (t0 &&& ~~~ varMask i).toNat := by
  rw [BitVec.add_comm, Nat.add_comm]
  exact toNat_add_of_guard (fun k => k.testBit i) (termD i hi t0) (termC i hi t1)

theorem swapMixed_no_overflow (j : Nat) (hj : j < 6) (t0 t1 : W) :
    ((t0 &&& ~~~ varMask j) + ((t1 &&& ~~~ varMask j) <<< (2 ^ j))).toNat =
      (t0 &&& ~~~ varMask j).toNat + ((t1 &&& ~~~ varMask j) <<< (2 ^ j)).toNat ∧
    (((t0 &&& varMask j) >>> (2 ^ j)) + (((t1 &&& varMask j) >>> (2 ^ j)) <<< (2 ^ j))).toNat =
      ((t0 &&& varMask j) >>> (2 ^ j)).toNat + (((t1 &&& varMask j) >>> (2 ^ j)) <<< (2 ^ j)).toNat :=
  ⟨toNat_add_of_guard (fun k => k.testBit j) (termD j hj t0) (termB j hj t1),
   toNat_add_of_guard (fun k => k.testBit j) (termA j hj t0) (termE j hj t1)⟩

/-- C17, no underflow in operations.rs: `(1 << i) - (1 << j)` (:336) and `ind - 6` (:122, 345, 361, 387 ..)
    here, `k - mj + mi` under the loop guard (:365) in `partner_no_underflow`; library facts, stated for
    these sites -/
theorem index_arith (i j : Nat) (hji : j < i) : 2 ^ j ≤ 2 ^ i ∧ (6 ≤ i → i - 6 + 6 = i) :=
  ⟨Nat.pow_le_pow_right (by decide) (Nat.le_of_lt hji), Nat.sub_add_cancel⟩

theorem partner_no_underflow (k j' : Nat) (h : k.testBit j' = true) : 2 ^ j' ≤ k :=
  Nat.ge_two_pow_of_testBit h

/-- C17, shift amounts; `n < 70`: a table that exists has `2^(n-6) < 2^64` words -/
theorem shift_amounts (n ind : Nat) (hn : n < 70) (hi : ind < n) : (ind ≤ 5 → 2 ^ ind < 64) ∧ (6 ≤ ind → ind - 6 < 64) :=
  ⟨fun h => Nat.lt_of_le_of_lt (Nat.pow_le_pow_right (by decide) h : 2 ^ ind ≤ 2 ^ 5) (by decide),
   fun h6 => (Nat.sub_lt_iff_lt_add' h6).mpr (Nat.lt_trans hi hn)⟩

/-- the successor step keeps the number of variables; that its `+ 1` wraps is `C08.next_spec` -/
theorem next_total (l : Lut) : (Dyn.verifNext l).1.n = l.n := rfl

/-- non-vacuity: an out-of-range index on a valid table, and a valid call -/
example : Dyn.cofactors ⟨2, #[0xe#64]⟩ 4 = none ∧ (Dyn.cofactors ⟨2, #[0xe#64]⟩ 1).isSome = true := by
  decide +kernel

end VoluteModel.Props.C17
