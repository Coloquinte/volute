import VoluteModel.Model.Sop
import VoluteModel.Lemmas.Tabulate
import VoluteModel.Lemmas.XorFold
import VoluteModel.Lemmas.ListFacts
import VoluteModel.Lemmas.Cubes

/-!
# C13 - exclusive cubes (XOR terms) and Soes (OR of XOR terms)

An exclusive cube is the parity of the assignment on its variables (`count_ones % 2` is the XOR of the bits),
so `^` and `!` are linear.
-/

namespace VoluteModel.Props.C13
open VoluteModel.Cubes

/-- parity (XOR) of the low `w` bits of `x` -/
def par (w x : Nat) : Bool := (List.range w).foldl (fun p i => p != x.testBit i) false

theorem par_eq (w x : Nat) : par w x = xorl (List.range w) x.testBit := rfl

theorem par_zero (w : Nat) : par w 0 = false := by
  rw [par_eq, ← xorl_false (List.range w)]
  exact xorl_congr fun i _ => Nat.zero_testBit i

/-- parity of the cube's variables under the assignment, complemented for an XNOR -/
theorem value_spec (e : Ecube) (m : Nat) :
    e.value m = (par 32 (e.vars &&& BitVec.ofNat 32 m).toNat != e.xnor) :=
  -- unfolding `Ecube.value`, `popc32`, `popc` and `par` leaves the two sides of `xorl_countP`
  congrArg (· != e.xnor) (xorl_countP ..).symm

theorem value_bits (e : Ecube) (m : Nat) :
    e.value m = (xorl (List.range 32) (fun v => e.vars.getLsbD v && m.testBit v) != e.xnor) := by
  rw [value_spec, par_eq]
  refine congrArg (· != e.xnor) (xorl_congr fun v hv => ?_)
  rw [BitVec.testBit_toNat, BitVec.getLsbD_and, ofNat_bit m (List.mem_range.mp hv)]

/-- `^` denotes XOR -/
theorem xor_value (a b : Ecube) (m : Nat) : (Ecube.xor a b).value m = (a.value m != b.value m) := by
  rw [value_bits, value_bits, value_bits]
  have : xorl (List.range 32) (fun v => (a.vars ^^^ b.vars).getLsbD v && m.testBit v) =
      (xorl (List.range 32) (fun v => a.vars.getLsbD v && m.testBit v) !=
       xorl (List.range 32) (fun v => b.vars.getLsbD v && m.testBit v)) := by
    rw [← xorl_bne]
    exact xorl_congr fun v _ => by rw [BitVec.getLsbD_xor]; exact Bool.and_xor_distrib_right ..
  simp only [Ecube.xor]
  rw [this]
  generalize xorl _ (fun v => a.vars.getLsbD v && m.testBit v) = x
  generalize xorl _ (fun v => b.vars.getLsbD v && m.testBit v) = y
  rw [Bool.bne_assoc, Bool.bne_assoc]
  exact congrArg (x != ·) (Bool.xor_left_comm y a.xnor b.xnor)

/-- `!` denotes the complement -/
theorem not_value (e : Ecube) (m : Nat) : (Ecube.not e).value m = !e.value m := by
  rw [value_bits, value_bits]
  simp only [Ecube.not]
  generalize xorl _ _ = x
  cases x <;> cases e.xnor <;> rfl

/-- equality of exclusive cubes is semantic equality -/
theorem eq_iff_sem (a b : Ecube) : a = b ↔ ∀ m, a.value m = b.value m := by
  refine ⟨fun h m => by rw [h], fun h => ?_⟩
  -- assignment `0` shows the flag, `2^v` shows bit `v` of the mask
  have hx : a.xnor = b.xnor := by simpa [value_bits] using h 0
  have hv : a.vars = b.vars := by
    apply BitVec.eq_of_getLsbD_eq
    intro v hv
    have single : ∀ x : W32, xorl (List.range 32) (fun i => x.getLsbD i && (2 ^ v).testBit i) = x.getLsbD v := by
      intro x
      have := xorl_single List.nodup_range v (fun i => x.getLsbD i) (l := List.range 32)
      rw [decide_eq_true (List.mem_range.mpr hv), Bool.true_and] at this
      rw [← this]
      exact xorl_congr fun i _ => by
        rw [Nat.testBit_two_pow, Bool.and_comm]; exact congrArg (· && x.getLsbD i) (decide_eq_decide.mpr eq_comm)
    have := h (2 ^ v)
    rw [value_bits, value_bits, hx, single, single] at this
    exact Bool.bne_left_inj.mp this
  rw [Ecube.mk.injEq]; exact ⟨hv, hx⟩

theorem impliesLut_iff (e : Ecube) (l : Lut) :
    e.impliesLut l = true ↔ ∀ m, m < 2 ^ l.n → e.value m = true → getBit l.t m = true :=
  implicant_loop_iff e.value l

theorem all_length (n : Nat) : (Ecube.all n).length = 2 ^ (n + 1) := by
  simp [Ecube.all, Nat.one_shiftLeft, Nat.pow_succ, List.map_const']

/-- n <= 32: the width of the mask -/
theorem all_nodup (n : Nat) (hn : n ≤ 32) : (Ecube.all n).Nodup :=
  nodup_flatMap_map List.nodup_range (fun _ _ => by decide) fun _ hi _ _ _ hi' _ _ e =>
    ⟨ofNat32_inj hn hi hi' (Ecube.mk.inj e).1, (Ecube.mk.inj e).2⟩

/-- the enumeration has 2^(n+1) distinct terms -/
theorem all_count : ∀ n : Fin 6, (Ecube.all n.val).length = 2 ^ (n.val + 1) ∧ (Ecube.all n.val).Nodup :=
  fun n => ⟨all_length n, all_nodup n (by omega)⟩

/-- a Soes evaluates to the OR of its terms -/
theorem soes_value (s : Soes) (m : Nat) : s.value m = s.cubes.any (fun c => c.value m) :=
  foldl_or_false ..

/-- `|` denotes OR -/
theorem soes_or (a b r : Soes) (h : Soes.or a b = some r) (m : Nat) :
    r.value m = (a.value m || b.value m) ∧ r.n = a.n := by
  cases Option.some.inj (Option.ite_none_left_eq_some.mp h).2
  exact ⟨by simp [soes_value], rfl⟩

/-- converting to a Lut tabulates it -/
theorem soes_toLut (s : Soes) (m : Nat) (hm : m < 2 ^ s.n) :
    (Soes.toLut s).eval m = s.value m ∧ (Soes.toLut s).n = s.n ∧ (Soes.toLut s).WF :=
  ⟨tabulate_eval s.n s.value m hm, tabulate_n .., tabulate_WF s.n s.value⟩

/-- `is_zero` only for the constant zero -/
theorem soes_isZero_sound (s : Soes) (h : s.isZero = true) (m : Nat) : s.value m = false := by
  rw [soes_value, List.isEmpty_iff.mp h]; rfl

theorem ecube_one_value (e : Ecube) (h : e.isOne = true) (m : Nat) : e.value m = true := by
  rw [Ecube.isOne, Bool.and_eq_true, bv_beq_iff] at h
  rw [value_spec, h.1, h.2, show (0 : W32) &&& BitVec.ofNat 32 m = 0#32 from BitVec.zero_and]
  exact congrArg (· != true) (par_zero 32)

/-- `is_one` only for the constant one -/
theorem soes_isOne_sound (s : Soes) (h : s.isOne = true) (m : Nat) : s.value m = true := by
  unfold Soes.isOne at h
  match hc : s.cubes with
  | [] => rw [hc] at h; simp at h
  | c :: cs =>
    rw [hc] at h
    rw [soes_value, hc]
    simp [ecube_one_value c h m]

/-- non-vacuity: `^` XORs masks and flags; the XNOR of x0, x2 is false when x2 alone is set -/
example : (Ecube.xor ⟨0b011, false⟩ ⟨0b110, true⟩) = ⟨0b101, true⟩ ∧ (⟨0b101, true⟩ : Ecube).value 0b100 = false := by
  decide +kernel

end VoluteModel.Props.C13
