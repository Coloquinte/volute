import VoluteModel.Model.Api
import VoluteModel.Lemmas.CrossWord
import VoluteModel.Lemmas.Guards

/-!
# C03 - flip, swap, cofactors and Shannon recomposition are exact

For every `n`, every table with `tableSize n` words and every index below `n`: all three storage
regimes.  Where a statement is `rfl` the model mirrors the source; the content is then the correspondence run.
-/

namespace VoluteModel.Props.C03

/-- `m` with bit `i` cleared / set: the instances `id`, `not` of `condFlip` (`Lemmas/NatBits.lean`) -/
def clearBit (m i : Nat) : Nat := if m.testBit i then m ^^^ 2 ^ i else m
def setBitN (m i : Nat) : Nat := if m.testBit i then m else m ^^^ 2 ^ i

theorem clearBit_eq (m i : Nat) : clearBit m i = condFlip id i m := rfl

theorem setBitN_eq (m i : Nat) : setBitN m i = condFlip not i m := (condFlip_not i m).symm

/-- C03, flip -/
theorem flip_bit (n : Nat) (t : Array W) (hs : t.size = tableSize n) (i : Nat) (hi : i < n)
    (m : Nat) (hm : m < 2 ^ n) : bit (flipInplace t i) m = bit t (m ^^^ 2 ^ i) :=
  flipInplace_bit n t hs i hi m

/-- C03, cofactors: f|x_i=0, f|x_i=1 -/
theorem cof0_bit (n : Nat) (t : Array W) (hs : t.size = tableSize n) (i : Nat) (hi : i < n)
    (m : Nat) : bit (cofactor0Inplace t i) m = bit t (clearBit m i) :=
  cofactor0Inplace_bit n t hs i hi m

theorem cof1_bit (n : Nat) (t : Array W) (hs : t.size = tableSize n) (i : Nat) (hi : i < n)
    (m : Nat) : bit (cofactor1Inplace t i) m = bit t (setBitN m i) := by
  rw [setBitN_eq]; exact cofactor1Inplace_bit n t hs i hi m

/-- C03, each independent of x_i -/
theorem cof0_indep (n : Nat) (t : Array W) (hs : t.size = tableSize n) (i : Nat) (hi : i < n)
    (m : Nat) (hm : m < 2 ^ n) :
    bit (cofactor0Inplace t i) (m ^^^ 2 ^ i) = bit (cofactor0Inplace t i) m := by
  rw [cofactor0Inplace_bit n t hs i hi, cofactor0Inplace_bit n t hs i hi, condFlip_xor id fun _ => rfl]

theorem cof1_indep (n : Nat) (t : Array W) (hs : t.size = tableSize n) (i : Nat) (hi : i < n)
    (m : Nat) (hm : m < 2 ^ n) :
    bit (cofactor1Inplace t i) (m ^^^ 2 ^ i) = bit (cofactor1Inplace t i) m := by
  rw [cofactor1Inplace_bit n t hs i hi, cofactor1Inplace_bit n t hs i hi, condFlip_xor not fun _ => rfl]

/-- C03, from_cofactors -/
theorem fromCof_bit (n : Nat) (t t0 t1 : Array W) (hs : t.size = tableSize n)
    (hs0 : t0.size = tableSize n) (hs1 : t1.size = tableSize n) (i : Nat) (hi : i < n)
    (m : Nat) (hm : m < 2 ^ n) :
    bit (fromCofactorsInplace t t0 t1 i) m = if m.testBit i then bit t1 m else bit t0 m :=
  fromCofactorsInplace_bit t t0 t1 (hs0.trans hs.symm) (hs1.trans hs.symm) i m

/-- C03, from_cofactors(cofactors(f, i), i) = f -/
theorem shannon (n : Nat) (t z : Array W) (hs : t.size = tableSize n) (hz : z.size = tableSize n)
    (i : Nat) (hi : i < n) (m : Nat) (hm : m < 2 ^ n) :
    bit (fromCofactorsInplace z (cofactor0Inplace t i) (cofactor1Inplace t i) i) m = bit t m := by
  rw [fromCof_bit n z _ _ hz ((cofactor0Inplace_size t i).trans hs) ((cofactor1Inplace_size t i).trans hs) i hi m hm,
    cof0_bit n t hs i hi, cof1_bit n t hs i hi, clearBit, setBitN]
  cases m.testBit i <;> rfl

/-- C03, swap -/
theorem swap_bit (n : Nat) (t : Array W) (hs : t.size = tableSize n) (i j : Nat) (hi : i < n) (hj : j < n)
    (m : Nat) (hm : m < 2 ^ n) : bit (swapInplace t i j) m = bit t (exch i j m) :=
  swapInplace_bit n t hs i j hi hj m

/-- C03, swap_adjacent -/
theorem swapAdjacent_eq (t : Array W) (i : Nat) : swapAdjacentInplace t i = swapInplace t i (i + 1) := rfl

/-- C03, API: behind `check_var` the in-place and the copying form return the same table (three theorems) -/
theorem api_flip (l : Lut) (i : Nat) (hl : l.WF) (hi : i < l.n) :
    ∃ r, Dyn.flip l i = some r ∧ Dyn.flipInplace l i = some r ∧ r.n = l.n ∧
      ∀ m, m < 2 ^ l.n → r.eval m = l.eval (m ^^^ 2 ^ i) :=
  have h : Dyn.flipInplace l i = some { l with t := flipInplace l.t i } :=
    if_pos ((Dyn.checkVar_iff l i).mpr hi)
  ⟨_, h, h, rfl, flip_bit l.n l.t hl.1 i hi⟩

theorem api_swap (l : Lut) (i j : Nat) (hl : l.WF) (hi : i < l.n) (hj : j < l.n) :
    ∃ r, Dyn.swap l i j = some r ∧ Dyn.swapInplace l i j = some r ∧ r.n = l.n ∧
      ∀ m, m < 2 ^ l.n → r.eval m = l.eval (exch i j m) :=
  have h : Dyn.swapInplace l i j = some { l with t := swapInplace l.t i j } :=
    if_pos (Bool.and_eq_true_iff.mpr ⟨(Dyn.checkVar_iff l i).mpr hi, (Dyn.checkVar_iff l j).mpr hj⟩)
  ⟨_, h, h, rfl, swap_bit l.n l.t hl.1 i j hi hj⟩

theorem api_cofactors (l : Lut) (i : Nat) (hl : l.WF) (hi : i < l.n) :
    ∃ c0 c1, Dyn.cofactors l i = some (c0, c1) ∧ c0.n = l.n ∧ c1.n = l.n ∧
      (∀ m, m < 2 ^ l.n → c0.eval m = l.eval (clearBit m i) ∧ c1.eval m = l.eval (setBitN m i)) ∧
      ∃ r, Dyn.fromCofactors c0 c1 i = some r ∧ r.n = l.n ∧ ∀ m, m < 2 ^ l.n → r.eval m = l.eval m := by
  refine ⟨{ l with t := cofactor0Inplace l.t i }, { l with t := cofactor1Inplace l.t i },
    if_pos ((Dyn.checkVar_iff l i).mpr hi), rfl, rfl,
    fun m _ => ⟨cof0_bit l.n l.t hl.1 i hi m, cof1_bit l.n l.t hl.1 i hi m⟩, ?_⟩
  refine ⟨⟨l.n, fromCofactorsInplace (Dyn.new l.n).t (cofactor0Inplace l.t i) (cofactor1Inplace l.t i) i⟩, ?_, rfl,
    shannon l.n l.t _ hl.1 Array.size_replicate i hi⟩
  simp [Dyn.fromCofactors, Dyn.checkVar_iff, hi]

/-- non-vacuity of the hypotheses only (two words, a cross-word index); kernels run in C02's and C17's examples -/
example : (⟨7, #[0xfee8e880e8808000#64, 0xfffefee8fee8e880#64]⟩ : Lut).WF ∧ 6 < 7 := by
  constructor
  · unfold Lut.WF; decide +kernel
  · omega

end VoluteModel.Props.C03
