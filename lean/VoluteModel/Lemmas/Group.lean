import VoluteModel.Lemmas.Orbit

/-!
# Certificates compose and invert: the images of f under a group of certificates form an orbit

Composition and inverse as explicit arrays and masks; a set of certificates closed under them
(`CertGroup`) makes "g is the image of f" an equivalence.  The three groups are instances.
-/

namespace VoluteModel

/-- first (σ1, μ1) from f to g, then (σ2, μ2) from g to t -/
def compPerm (σ1 σ2 : Array Nat) : Array Nat := σ2.map (fun k => σ1[k]?.getD 0)

/-- input i of t: μ2's bit, and μ1's bit of the input of g it is wired to; output: both output bits -/
def compMask (n : Nat) (σ2 : Array Nat) (μ1 μ2 : Nat) : Nat :=
  bitsToNat (fun i => if i < n then (μ2.testBit i != μ1.testBit (σ2[i]?.getD 0))
                      else (μ1.testBit n != μ2.testBit n)) (n + 1)

theorem compPerm_getD (σ1 σ2 : Array Nat) (i : Nat) (hi : i < σ2.size) :
    (compPerm σ1 σ2)[i]?.getD 0 = σ1[σ2[i]?.getD 0]?.getD 0 := by
  rw [compPerm, Array.getElem?_map, Array.getElem?_eq_getElem hi]
  rfl

theorem compMask_testBit (n : Nat) (σ2 : Array Nat) (μ1 μ2 : Nat) (i : Nat) (hi : i < n) :
    (compMask n σ2 μ1 μ2).testBit i = (μ2.testBit i != μ1.testBit (σ2[i]?.getD 0)) := by
  rw [compMask, bitsToNat_testBit, decide_eq_true (Nat.lt_succ_of_lt hi), if_pos hi, Bool.true_and]

theorem compMask_testBit_out (n : Nat) (σ2 : Array Nat) (μ1 μ2 : Nat) :
    (compMask n σ2 μ1 μ2).testBit n = (μ1.testBit n != μ2.testBit n) := by
  rw [compMask, bitsToNat_testBit, decide_eq_true (Nat.lt_succ_self n), if_neg (Nat.lt_irrefl n), Bool.true_and]

theorem map_getD_range_size {n : Nat} {σ : Array Nat} (h : σ.size = n) :
    (List.range n).map (fun k => σ[k]?.getD 0) = σ.toList := by
  subst h
  rw [← Array.length_toList, ← map_getD_range σ.toList]
  simp only [Array.getElem?_toList, List.length_map, List.length_range]

theorem compPerm_isPerm (n : Nat) (σ1 σ2 : Array Nat) (h1 : IsPerm n σ1) (h2 : IsPerm n σ2) :
    IsPerm n (compPerm σ1 σ2) := by
  refine ⟨(Array.size_map ..).trans h2.1, ?_⟩
  rw [compPerm, Array.toList_map]
  exact ((h2.2.map _).trans (map_getD_range_size h1.1 ▸ List.Perm.refl _)).trans h1.2

theorem compMask_lt (n : Nat) (σ2 : Array Nat) (μ1 μ2 : Nat) : compMask n σ2 μ1 μ2 < 2 ^ (n + 1) :=
  bitsToNat_lt _ _

theorem cert_comp (n : Nat) (f g t : Array W) (σ1 σ2 : Array Nat) (μ1 μ2 : Nat)
    (hσ2 : IsPerm n σ2) (h1 : CertRel n f g σ1 μ1) (h2 : CertRel n g t σ2 μ2) :
    CertRel n f t (compPerm σ1 σ2) (compMask n σ2 μ1 μ2) := by
  intro y z hy hz hrel
  -- x : the assignment of g between y (of t) and z (of f)
  obtain ⟨x, hx, hxrel⟩ := cert_total n σ2 μ2 hσ2 y
  have hz' : ∀ k, k < n → z.testBit (σ1[k]?.getD 0) = (x.testBit k != μ1.testBit k) := by
    intro k hk
    obtain ⟨hi, hik⟩ := idxOf_perm hσ2 k hk
    generalize σ2.toList.idxOf k = i at hi hik
    have a := hrel i hi
    rw [compPerm_getD σ1 σ2 i (hσ2.1 ▸ hi), compMask_testBit n σ2 μ1 μ2 i hi, hik] at a
    have b := hxrel i hi
    rw [hik] at b
    rw [a, b, Bool.bne_assoc]
  rw [h2 y x hy hx hxrel, h1 x z hx hz hz', compMask_testBit_out, Bool.bne_assoc]

/-- entry k is the position of k in σ -/
def invPerm (n : Nat) (σ : Array Nat) : Array Nat := (Array.range n).map (fun k => σ.toList.idxOf k)

/-- input k takes the mask bit of its position in σ -/
def invMask (n : Nat) (σ : Array Nat) (μ : Nat) : Nat :=
  bitsToNat (fun k => if k < n then μ.testBit (σ.toList.idxOf k) else μ.testBit n) (n + 1)

theorem invPerm_getD (n : Nat) (σ : Array Nat) (k : Nat) (hk : k < n) :
    (invPerm n σ)[k]?.getD 0 = σ.toList.idxOf k := by
  rw [invPerm, Array.getElem?_map, Array.getElem?_eq_getElem (Array.size_range ▸ hk), Array.getElem_range]
  rfl

theorem invMask_testBit (n : Nat) (σ : Array Nat) (μ : Nat) (k : Nat) (hk : k < n) :
    (invMask n σ μ).testBit k = μ.testBit (σ.toList.idxOf k) := by
  rw [invMask, bitsToNat_testBit, decide_eq_true (Nat.lt_succ_of_lt hk), if_pos hk, Bool.true_and]

theorem invMask_testBit_out (n : Nat) (σ : Array Nat) (μ : Nat) : (invMask n σ μ).testBit n = μ.testBit n := by
  rw [invMask, bitsToNat_testBit, decide_eq_true (Nat.lt_succ_self n), if_neg (Nat.lt_irrefl n), Bool.true_and]

theorem invMask_lt (n : Nat) (σ : Array Nat) (μ : Nat) : invMask n σ μ < 2 ^ (n + 1) := bitsToNat_lt _ _

theorem invPerm_isPerm (n : Nat) (σ : Array Nat) (h : IsPerm n σ) : IsPerm n (invPerm n σ) := by
  refine ⟨(Array.size_map ..).trans Array.size_range, ?_⟩
  have := h.2.map fun k => σ.toList.idxOf k
  rw [map_idxOf_self _ (h.2.nodup_iff.mpr List.nodup_range), Array.length_toList, h.1] at this
  rw [invPerm, Array.toList_map, Array.toList_range]
  exact this.symm

theorem cert_inv (n : Nat) (f g : Array W) (σ : Array Nat) (μ : Nat) (hσ : IsPerm n σ)
    (h : CertRel n f g σ μ) : CertRel n g f (invPerm n σ) (invMask n σ μ) := by
  intro x y hx hy hrel
  -- x : assignment of f (the "output side" here), y : assignment of g
  have hy' : ∀ i, i < n → x.testBit (σ[i]?.getD 0) = (y.testBit i != μ.testBit i) := by
    intro i hi
    have hk := isPerm_lt hσ i hi
    have a := hrel (σ[i]?.getD 0) hk
    rw [invPerm_getD n σ _ hk, invMask_testBit n σ μ _ hk, idxOf_getD hσ i hi] at a
    rw [a]
    cases x.testBit (σ[i]?.getD 0) <;> cases μ.testBit i <;> rfl
  rw [h y x hy hx hy', invMask_testBit_out]
  cases bit f x <;> cases μ.testBit n <;> rfl

/-- a set of certificates that is a group under `comp*` / `inv*` -/
structure CertGroup (n : Nat) (G : Array Nat → Nat → Prop) : Prop where
  one : G (Array.range n) 0
  isPerm : ∀ {σ μ}, G σ μ → IsPerm n σ
  comp : ∀ {σ1 μ1 σ2 μ2}, G σ1 μ1 → G σ2 μ2 → G (compPerm σ1 σ2) (compMask n σ2 μ1 μ2)
  inv : ∀ {σ μ}, G σ μ → G (invPerm n σ) (invMask n σ μ)

section
variable {n : Nat} {G : Array Nat → Nat → Prop} (hG : CertGroup n G) {f g t : Array W}
include hG

theorem CertGroup.refl (f : Array W) : ∃ σ μ, G σ μ ∧ CertRel n f f σ μ :=
  ⟨_, _, hG.one, cert_init n f⟩

theorem CertGroup.symm : (∃ σ μ, G σ μ ∧ CertRel n f g σ μ) → ∃ σ μ, G σ μ ∧ CertRel n g f σ μ :=
  fun ⟨σ, μ, h, r⟩ => ⟨_, _, hG.inv h, cert_inv n f g σ μ (hG.isPerm h) r⟩

theorem CertGroup.trans :
    (∃ σ μ, G σ μ ∧ CertRel n f g σ μ) → (∃ σ μ, G σ μ ∧ CertRel n g t σ μ) → ∃ σ μ, G σ μ ∧ CertRel n f t σ μ :=
  fun ⟨σ1, μ1, h1, r1⟩ ⟨σ2, μ2, h2, r2⟩ => ⟨_, _, hG.comp h1 h2, cert_comp n f g t σ1 σ2 μ1 μ2 (hG.isPerm h2) r1 r2⟩

end

theorem npnGroup (n : Nat) : CertGroup n (fun σ μ => IsPerm n σ ∧ μ < 2 ^ (n + 1)) where
  one := ⟨isPerm_range n, Nat.two_pow_pos _⟩
  isPerm h := h.1
  comp h1 h2 := ⟨compPerm_isPerm n _ _ h1.1 h2.1, compMask_lt n _ _ _⟩
  inv h := ⟨invPerm_isPerm n _ h.1, invMask_lt n _ _⟩

theorem compMask_zero (n : Nat) (σ2 : Array Nat) : compMask n σ2 0 0 = 0 :=
  bitsToNat_false _ _ fun k _ => by simp only [Nat.zero_testBit, bne_self_eq_false, ite_self]

theorem invMask_zero (n : Nat) (σ : Array Nat) : invMask n σ 0 = 0 :=
  bitsToNat_false _ _ fun k _ => by simp only [Nat.zero_testBit, ite_self]

theorem pGroup (n : Nat) : CertGroup n (fun σ μ => IsPerm n σ ∧ μ = 0) where
  one := ⟨isPerm_range n, rfl⟩
  isPerm h := h.1
  comp := fun ⟨p1, e1⟩ ⟨p2, e2⟩ => ⟨compPerm_isPerm n _ _ p1 p2, by rw [e1, e2, compMask_zero]⟩
  inv := fun ⟨p, e⟩ => ⟨invPerm_isPerm n _ p, by rw [e, invMask_zero]⟩

theorem compPerm_id (n : Nat) : compPerm (Array.range n) (Array.range n) = Array.range n := by
  apply Array.ext'
  rw [compPerm, Array.toList_map, Array.toList_range, map_getD_range_size Array.size_range, Array.toList_range]

theorem invPerm_id (n : Nat) : invPerm n (Array.range n) = Array.range n := by
  apply Array.ext'
  rw [invPerm, Array.toList_map, Array.toList_range, map_idxOf_self _ List.nodup_range, List.length_range]

theorem nGroup (n : Nat) : CertGroup n (fun σ μ => σ = Array.range n ∧ μ < 2 ^ (n + 1)) where
  one := ⟨rfl, Nat.two_pow_pos _⟩
  isPerm h := h.1 ▸ isPerm_range n
  comp := fun ⟨e1, _⟩ ⟨e2, _⟩ => ⟨by rw [e1, e2, compPerm_id], compMask_lt n _ _ _⟩
  inv := fun ⟨e, _⟩ => ⟨by rw [e, invPerm_id], invMask_lt n _ _⟩

end VoluteModel
