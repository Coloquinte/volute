/-!
# Swap and flip sequences as lists

A swap sequence acts on a list by adjacent transpositions (`swapAdjL`), a flip sequence on a mask by xor
(`xorFlips`); `prefixPerms` / `prefixXors` list the permutations / masks before each step (start included).
-/

namespace VoluteModel

def xorFlips (flips : List Nat) : Nat := flips.foldl (fun a f => a ^^^ (1 <<< f)) 0

theorem xorFlips_nil : xorFlips [] = 0 := rfl

theorem xorFlips_cons (f : Nat) (fs : List Nat) : xorFlips (f :: fs) = 2 ^ f ^^^ xorFlips fs := by
  rw [xorFlips, List.foldl_cons, Nat.zero_xor, Nat.one_shiftLeft, xorFlips,
    ← List.foldl_hom (2 ^ f ^^^ ·) (g₂ := fun a f => a ^^^ (1 <<< f)) fun a g => Nat.xor_assoc _ a _, Nat.xor_zero]

theorem xorFlips_snoc (fs : List Nat) (f : Nat) : xorFlips (fs ++ [f]) = xorFlips fs ^^^ 2 ^ f := by
  rw [xorFlips, List.foldl_append, List.foldl_cons, List.foldl_nil, Nat.one_shiftLeft]
  rfl

theorem xorFlips_lt (n : Nat) (fs : List Nat) (h : ∀ f ∈ fs, f < n) : xorFlips fs < 2 ^ n := by
  induction fs with
  | nil => exact Nat.two_pow_pos n
  | cons f fs ih =>
    rw [xorFlips_cons]
    exact Nat.xor_lt_two_pow (Nat.pow_lt_pow_right (by decide) (h f List.mem_cons_self))
      (ih (fun g hg => h g (List.mem_cons_of_mem _ hg)))

/-- adjacent swap on a list (kernel-friendly twin of `Array.swapIfInBounds s (s+1)`) -/
def swapAdjL : Nat → List Nat → List Nat
  | 0, a :: b :: r => b :: a :: r
  | s + 1, a :: r => a :: swapAdjL s r
  | _, l => l

theorem swapAdjL_length : ∀ (s : Nat) (l : List Nat), (swapAdjL s l).length = l.length
  | 0, [] | 0, [_] | 0, _ :: _ :: _ | _ + 1, [] => rfl
  | s + 1, _ :: r => congrArg (· + 1) (swapAdjL_length s r)

theorem swapAdjL_invol : ∀ (s : Nat) (l : List Nat), swapAdjL s (swapAdjL s l) = l
  | 0, [] | 0, [_] | 0, _ :: _ :: _ | _ + 1, [] => rfl
  | s + 1, a :: r => congrArg (a :: ·) (swapAdjL_invol s r)

theorem swapAdjL_map (φ : Nat → Nat) : ∀ (s : Nat) (l : List Nat), (swapAdjL s l).map φ = swapAdjL s (l.map φ)
  | 0, [] | 0, [_] | 0, _ :: _ :: _ | _ + 1, [] => rfl
  | s + 1, a :: r => congrArg (φ a :: ·) (swapAdjL_map φ s r)

theorem swapAdjL_append (x : Nat) : ∀ (s : Nat) (l : List Nat), s + 1 < l.length →
    swapAdjL s (l ++ [x]) = swapAdjL s l ++ [x]
  | 0, _ :: _ :: _, _ => rfl
  | s + 1, a :: r, h => congrArg (a :: ·) (swapAdjL_append x s r (Nat.lt_of_succ_lt_succ h))

theorem swapAdjL_short : ∀ (s : Nat) (l : List Nat), ¬ s + 1 < l.length → swapAdjL s l = l
  | 0, [], _ | 0, [_], _ | _ + 1, [], _ => rfl
  | 0, _ :: _ :: _, h => absurd (Nat.succ_lt_succ (Nat.succ_pos _)) h
  | s + 1, a :: r, h => congrArg (a :: ·) (swapAdjL_short s r fun h' => h (Nat.succ_lt_succ h'))

theorem swapAdjL_getElem? : ∀ (s : Nat) (l : List Nat), s + 1 < l.length → ∀ k : Nat,
    (swapAdjL s l)[k]? = if s + 1 = k then l[s]? else if s = k then l[s + 1]? else l[k]?
  | 0, _ :: _ :: _, _, 0 | 0, _ :: _ :: _, _, 1 | 0, _ :: _ :: _, _, _ + 2 => rfl
  | _ + 1, _ :: _, _, 0 => rfl
  | s + 1, a :: r, h, k + 1 => by
    rw [swapAdjL, List.getElem?_cons_succ, swapAdjL_getElem? s r (Nat.lt_of_succ_lt_succ h) k]
    simp only [List.getElem?_cons_succ, Nat.add_right_cancel_iff]

theorem swapAdjL_eq (p : Array Nat) (s : Nat) : swapAdjL s p.toList = (p.swapIfInBounds s (s + 1)).toList := by
  symm
  rw [Array.swapIfInBounds_def]
  by_cases h : s + 1 < p.size
  · have h1 : s < p.size := Nat.lt_of_succ_lt h
    rw [dif_pos h1, dif_pos h]
    apply List.ext_getElem?
    intro k
    rw [swapAdjL_getElem? s p.toList (Array.length_toList ▸ h) k, Array.getElem?_toList, Array.getElem?_swap,
      Array.getElem?_toList, Array.getElem?_toList, Array.getElem?_toList, Array.getElem?_eq_getElem h1,
      Array.getElem?_eq_getElem h]
  · rw [swapAdjL_short s p.toList (Array.length_toList ▸ h)]
    split
    · rfl
    · rfl

theorem foldl_swapAdjL_map (φ : Nat → Nat) (sw : List Nat) (p : List Nat) :
    sw.foldl (fun q s => swapAdjL s q) (p.map φ) = (sw.foldl (fun q s => swapAdjL s q) p).map φ :=
  List.foldl_hom (List.map φ) fun q s => (swapAdjL_map φ s q).symm

/-- k! (core Lean has no factorial; `Count.lean` identifies it with Mathlib's) -/
def factL : Nat → Nat
  | 0 => 1
  | k + 1 => (k + 1) * factL k

theorem factL_pos : ∀ n, 0 < factL n
  | 0 => Nat.one_pos
  | n + 1 => Nat.mul_pos (Nat.succ_pos n) (factL_pos n)

def prefixPerms : List Nat → List Nat → List (List Nat)
  | _, [] => []
  | p, s :: ss => p :: prefixPerms (swapAdjL s p) ss

theorem prefixPerms_eq_map (p : List Nat) (swaps : List Nat) :
    prefixPerms p swaps =
      (List.range swaps.length).map (fun j => (swaps.take j).foldl (fun q s => swapAdjL s q) p) := by
  induction swaps generalizing p with
  | nil => rfl
  | cons s ss ih =>
    rw [prefixPerms, ih, List.length_cons, List.range_succ_eq_map, List.map_cons, List.map_map]
    rfl

theorem prefixPerms_length (p : List Nat) (swaps : List Nat) : (prefixPerms p swaps).length = swaps.length := by
  rw [prefixPerms_eq_map, List.length_map, List.length_range]

theorem prefixPerms_snoc (p : List Nat) (swaps : List Nat) (s : Nat) :
    prefixPerms p (swaps ++ [s]) = prefixPerms p swaps ++ [swaps.foldl (fun q s => swapAdjL s q) p] := by
  induction swaps generalizing p with
  | nil => rfl
  | cons t ss ih => rw [List.cons_append, prefixPerms, ih, List.foldl_cons, prefixPerms, List.cons_append]

theorem prefixPerms_map (φ : Nat → Nat) (sw : List Nat) (p : List Nat) :
    prefixPerms (p.map φ) sw = (prefixPerms p sw).map (List.map φ) := by
  induction sw generalizing p with
  | nil => rfl
  | cons s ss ih => rw [prefixPerms, prefixPerms, ← swapAdjL_map, ih, List.map_cons]

def prefixXors : Nat → List Nat → List Nat
  | _, [] => []
  | x, f :: fs => x :: prefixXors (x ^^^ 2 ^ f) fs

theorem prefixXors_eq_map (x : Nat) (flips : List Nat) :
    prefixXors x flips = (List.range flips.length).map (fun j => x ^^^ xorFlips (flips.take j)) := by
  induction flips generalizing x with
  | nil => rfl
  | cons f fs ih =>
    rw [prefixXors, ih, List.length_cons, List.range_succ_eq_map, List.map_cons, List.map_map]
    simp only [List.take_zero, xorFlips_nil, Nat.xor_zero, Function.comp_def, List.take_succ_cons, xorFlips_cons,
      Nat.xor_assoc]

theorem prefixXors_length (x : Nat) (flips : List Nat) : (prefixXors x flips).length = flips.length := by
  rw [prefixXors_eq_map, List.length_map, List.length_range]

/-- what `macroN_closedWalk`, `macroNPN_closedWalk` (SeqFacts) and `gray_cover` (Cover) need of a flip sequence -/
structure FlipFacts (n : Nat) (flips : List Nat) : Prop where
  valid : ∀ f ∈ flips, f < n
  closed : xorFlips flips = 0
  ne : flips ≠ []

/-- what the coverage argument (`Cover.lean`) needs of a swap sequence -/
structure SwapCover (n : Nat) (swaps : List Nat) : Prop where
  nodup : (prefixPerms (List.range n) swaps).Nodup
  length : swaps.length = factL n

/-- what the coverage argument (`Cover.lean`) needs of a flip sequence -/
structure FlipCover (n : Nat) (flips : List Nat) : Prop where
  nodup : (prefixXors 0 flips).Nodup
  length : flips.length = 2 ^ n

end VoluteModel
