import VoluteModel.Model.Ops
import VoluteModel.Lemmas.NatBits

/-!
# The in-place pair loop: closed ("gather") form

`for k in 0..len { if P k { (t[k], t[partner k]) := g (t[k], t[partner k]) } }` where the pairs
`{k, partner k}` are orbits of an involution `σ` of the word indices and `P` holds for at most one
member of each.  One invariant argument (`pairLoopUpTo_invol`) serves flip and the cofactors
(`σ k = k ^^^ 2^j`), the mixed swap regime (the same `σ`) and the swap of two word-index
variables (`σ = exch i' j'`).
-/

namespace VoluteModel

def pairLoopUpTo (P : Nat → Bool) (partner : Nat → Nat) (g : W → W → W × W) (t : Array W) (m : Nat) : Array W :=
  (List.range m).foldl (pairStepF P partner g) t

theorem pairLoopF_eq (P partner g t) : pairLoopF P partner g t = pairLoopUpTo P partner g t t.size := rfl

theorem pairLoopUpTo_succ (P partner g) (t : Array W) (m : Nat) :
    pairLoopUpTo P partner g t (m+1) = pairStepF P partner g (pairLoopUpTo P partner g t m) m := by
  unfold pairLoopUpTo
  rw [List.range_succ, List.foldl_append]; rfl

theorem pairStepF_size (P partner g) (t : Array W) (k : Nat) : (pairStepF P partner g t k).size = t.size := by
  unfold pairStepF; split <;> simp

theorem pairLoopUpTo_size (P partner g) (t : Array W) (m : Nat) : (pairLoopUpTo P partner g t m).size = t.size := by
  induction m with
  | zero => simp [pairLoopUpTo]
  | succ m ih => rw [pairLoopUpTo_succ, pairStepF_size, ih]

theorem pairLoopF_size {P partner g} {t : Array W} : (pairLoopF P partner g t).size = t.size := by
  rw [pairLoopF_eq, pairLoopUpTo_size]

theorem pairLoopUpTo_congr (P : Nat → Bool) (p1 p2 : Nat → Nat) (g) (t : Array W) (m : Nat)
    (h : ∀ k, P k = true → p1 k = p2 k) : pairLoopUpTo P p1 g t m = pairLoopUpTo P p2 g t m := by
  induction m with
  | zero => simp only [pairLoopUpTo, List.range_zero, List.foldl_nil]
  | succ m ih =>
    rw [pairLoopUpTo_succ, pairLoopUpTo_succ, ih]
    unfold pairStepF
    split
    · rw [h m ‹_›]
    · rfl

theorem pairLoopUpTo_congrP (P1 P2 : Nat → Bool) (p : Nat → Nat) (g) (t : Array W) (m : Nat)
    (h : ∀ k, P1 k = P2 k) : pairLoopUpTo P1 p g t m = pairLoopUpTo P2 p g t m :=
  funext h ▸ rfl

theorem pairLoopUpTo_invol (P : Nat → Bool) (σ : Nat → Nat) (g : W → W → W × W) (t : Array W)
    (hσ : ∀ k, σ (σ k) = k) (hP : ∀ k, P k = true → P (σ k) = false)
    (hin : ∀ k, P k = true → k < t.size → σ k < t.size)
    (m : Nat) (hm : m ≤ t.size) (k : Nat) (hk : k < t.size) :
    (pairLoopUpTo P σ g t m)[k]?.getD 0 =
      if P k = true ∧ k < m then (g (t[k]?.getD 0) (t[σ k]?.getD 0)).1
      else if P (σ k) = true ∧ σ k < m then (g (t[σ k]?.getD 0) (t[k]?.getD 0)).2
      else t[k]?.getD 0 := by
  induction m generalizing k with
  | zero => simp [pairLoopUpTo]
  | succ m ih =>
    have ih := ih (Nat.le_of_succ_le hm)
    rw [pairLoopUpTo_succ]
    unfold pairStepF
    by_cases hPm : P m = true
    · -- step `m` fires: neither `m` nor `σ m` has been written yet, the only steps that write them being `m` and `σ m`
      have hPσ := hP m hPm
      have hsm : (pairLoopUpTo P σ g t m)[m]?.getD 0 = t[m]?.getD 0 := by
        rw [ih m hm]; simp [hPσ]
      have hsσ : (pairLoopUpTo P σ g t m)[σ m]?.getD 0 = t[σ m]?.getD 0 := by
        rw [ih (σ m) (hin m hPm hm)]; simp [hPσ, hσ]
      simp only [hPm, if_true, hsm, hsσ]
      rw [Array.getElem?_setIfInBounds, Array.getElem?_setIfInBounds]
      simp only [Array.size_setIfInBounds, pairLoopUpTo_size]
      by_cases h1 : σ m = k
      · subst h1
        simp [hk, hPσ, hσ, hPm]
      · by_cases h2 : m = k
        · subst h2
          simp [h1, hk, hPm]
        · have h3 : σ k ≠ m := by intro e; rw [← e, hσ] at h1; exact h1 rfl
          have lt_succ : ∀ {x}, x ≠ m → (x < m + 1 ↔ x < m) := fun hne =>
            ⟨fun h => Nat.lt_of_le_of_ne (Nat.le_of_lt_succ h) hne, Nat.lt_succ_of_lt⟩
          have e1 := lt_succ (Ne.symm h2)
          have e2 := lt_succ h3
          simp only [h1, h2, if_false, ih k hk, e1, e2]
    · have hPm' : P m = false := by simpa using hPm
      have e : ∀ x, (P x = true ∧ x < m + 1) ↔ (P x = true ∧ x < m) := by
        intro x
        constructor
        · rintro ⟨a, b⟩
          refine ⟨a, Nat.lt_of_le_of_ne (Nat.le_of_lt_succ b) ?_⟩
          intro h; rw [h, hPm'] at a; cases a
        · rintro ⟨a, b⟩; exact ⟨a, Nat.lt_succ_of_lt b⟩
      simp only [hPm, if_false, Bool.false_eq_true, ih k hk, e]

/-- `hin` for every `k`, not only for leaders as in `pairLoopUpTo_invol`: for a partner `k` the bound `σ k < m`
    of the closed form has to go too -/
theorem pairLoopF_invol (P : Nat → Bool) (partner σ : Nat → Nat) (g : W → W → W × W) (t : Array W)
    (hσ : ∀ k, σ (σ k) = k) (hP : ∀ k, P k = true → P (σ k) = false)
    (hin : ∀ k, k < t.size → σ k < t.size) (hpart : ∀ k, P k = true → partner k = σ k)
    (k : Nat) (hk : k < t.size) :
    (pairLoopF P partner g t)[k]?.getD 0 =
      if P k then (g (t[k]?.getD 0) (t[σ k]?.getD 0)).1
      else if P (σ k) then (g (t[σ k]?.getD 0) (t[k]?.getD 0)).2
      else t[k]?.getD 0 := by
  rw [pairLoopF_eq, pairLoopUpTo_congr P partner σ g t _ hpart,
    pairLoopUpTo_invol P σ g t hσ hP (fun k _ => hin k) _ (Nat.le_refl _) k hk]
  simp only [hk, hin k hk, and_true]

theorem pairLoop_stride (j : Nat) (g : W → W → W × W) (t : Array W) (n' : Nat)
    (hsz : t.size = 2 ^ n') (hj : j < n') (k : Nat) (hk : k < t.size) :
    (pairLoopF (fun i => i &&& (1 <<< j) == 0) (fun i => i + (1 <<< j)) g t)[k]?.getD 0 =
      if k.testBit j then (g (t[k ^^^ 2 ^ j]?.getD 0) (t[k]?.getD 0)).2
      else (g (t[k]?.getD 0) (t[k ^^^ 2 ^ j]?.getD 0)).1 := by
  simp only [Nat.one_shiftLeft, and_two_pow_eq_zero]
  rw [pairLoopF_invol _ _ (· ^^^ 2 ^ j) g t]
  · simp only [testBit_xor_two_pow]
    cases k.testBit j <;> rfl
  · exact fun k => xor_xor_cancel k _
  · intro k hk; rw [testBit_xor_two_pow]; simpa using hk
  · intro k hk; rw [hsz] at hk ⊢; exact xor_lt_two_pow_of_lt hk hj
  · intro k hk; exact (xor_two_pow_of_clear k j (by simpa using hk)).symm
  · exact hk

/-- closed form of the partially executed loop -/
def pairSpec (P : Nat → Bool) (d : Nat) (g : W → W → W × W) (t : Array W) (m k : Nat) : W :=
  if P k = true ∧ k < m then (g (t[k]?.getD 0) (t[k + d]?.getD 0)).1
  else if d ≤ k ∧ P (k - d) = true ∧ k - d < m then (g (t[k - d]?.getD 0) (t[k]?.getD 0)).2
  else t[k]?.getD 0

/-- the case of a constant stride: the involution is `k ↦ k + d` on leaders, `k ↦ k - d` on their partners -/
theorem pairLoopUpTo_get (P : Nat → Bool) (d : Nat) (g : W → W → W × W) (t : Array W)
    (hd : 0 < d)
    (hdisj : ∀ k, P k = true → P (k + d) = false)
    (hin : ∀ k, P k = true → k < t.size → k + d < t.size)
    (m : Nat) (hm : m ≤ t.size) : ∀ k, k < t.size →
    (pairLoopUpTo P (· + d) g t m)[k]?.getD 0 = pairSpec P d g t m k := by
  intro k hk
  let σ : Nat → Nat := fun k => if P k = true then k + d else if d ≤ k ∧ P (k - d) = true then k - d else k
  have hlead : ∀ k, P k = true → σ k = k + d := fun k h => if_pos h
  have hfol : ∀ k, d ≤ k → P (k - d) = true → P k = false ∧ σ k = k - d := by
    intro k hle h
    have := hdisj _ h
    rw [Nat.sub_add_cancel hle] at this
    exact ⟨this, by simp [σ, this, hle, h]⟩
  have hσ : ∀ k, σ (σ k) = k := by
    intro k
    by_cases h1 : P k = true
    · rw [hlead k h1, (hfol (k + d) (Nat.le_add_left d k) (by rwa [Nat.add_sub_cancel])).2, Nat.add_sub_cancel]
    · by_cases h2 : d ≤ k ∧ P (k - d) = true
      · rw [(hfol k h2.1 h2.2).2, hlead _ h2.2, Nat.sub_add_cancel h2.1]
      · simp [σ, h1, h2]
  rw [pairLoopUpTo_congr P (· + d) σ g t m (fun k h => (hlead k h).symm),
    pairLoopUpTo_invol P σ g t hσ (fun k h => by rw [hlead k h]; exact hdisj k h)
      (fun k h hk => by rw [hlead k h]; exact hin k h hk) m hm k hk]
  unfold pairSpec
  by_cases h1 : P k = true
  · have h2 : ¬ (d ≤ k ∧ P (k - d) = true ∧ k - d < m) := fun h => by
      rw [(hfol k h.1 h.2.1).1] at h1; cases h1
    simp only [hlead k h1, hdisj k h1, Bool.false_eq_true, false_and, if_false, h2]
  · have h1' : P k = false := by simpa using h1
    by_cases h2 : d ≤ k ∧ P (k - d) = true
    · simp [h1', (hfol k h2.1 h2.2).2, h2.1]
    · have h3 : ¬ (d ≤ k ∧ P (k - d) = true ∧ k - d < m) := fun h => h2 ⟨h.1, h.2.1⟩
      have e : σ k = k := by simp [σ, h1, h2]
      simp [h1', e, h3]

end VoluteModel
