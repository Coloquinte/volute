import VoluteModel.Model.CanonGen
import VoluteModel.Lemmas.ListFacts
import VoluteModel.Lemmas.NatBits
import VoluteModel.Lemmas.SeqCore

/-!
# The run-time Gray-flip generator, for every number of variables

`generate_gray_flips(n, true)` is a closed Hamiltonian walk of the n-cube for every 1 <= n <= 64 (the width of
`trailing_zeros`): position j of the walk is the reflected Gray code `j xor (j >> 1)`.  The Gray code is
xor-linear: so two consecutive codes differ by the code of a mask of low ones, which is one bit, and the code is
injective because it vanishes only at 0.  The first two lemmas are general facts about bits.
-/

namespace VoluteModel

theorem low_bit (i : Nat) (hi : 1 ≤ i) : ∃ t q, i = 2 ^ (t + 1) * q + 2 ^ t := by
  induction i using Nat.strongRecOn with
  | _ i ih =>
    have hdm := Nat.div_add_mod i 2
    rcases Nat.mod_two_eq_zero_or_one i with h0 | h1
    · rw [h0, Nat.add_zero] at hdm
      have hpos : 0 < i / 2 := by omega
      obtain ⟨t, q, h⟩ := ih (i / 2) (Nat.div_lt_self hi (by decide)) hpos
      refine ⟨t + 1, q, ?_⟩
      rw [← hdm, h, Nat.pow_succ 2 (t + 1), Nat.pow_succ 2 t, Nat.mul_add, Nat.mul_comm 2, Nat.mul_right_comm,
        Nat.mul_comm 2]
    · rw [h1] at hdm
      exact ⟨0, i / 2, hdm.symm⟩

theorem pred_xor_self (i : Nat) (hi : 1 ≤ i) : ∃ t, (i - 1) ^^^ i = 2 ^ (t + 1) - 1 ∧ 2 ^ t ≤ i := by
  obtain ⟨t, q, h⟩ := low_bit i hi
  refine ⟨t, ?_, by rw [h]; exact Nat.le_add_left _ _⟩
  have hp : 2 ^ t < 2 ^ (t + 1) := Nat.pow_lt_pow_succ (by decide)
  have hp1 : 2 ^ t - 1 < 2 ^ (t + 1) := Nat.lt_of_le_of_lt (Nat.sub_le _ _) hp
  have hi1 : i - 1 = 2 ^ (t + 1) * q + (2 ^ t - 1) := by rw [h, Nat.add_sub_assoc (Nat.two_pow_pos t)]
  apply Nat.eq_of_testBit_eq
  intro b
  rw [hi1, h, Nat.testBit_xor, Nat.testBit_two_pow_mul_add _ hp1, Nat.testBit_two_pow_mul_add _ hp,
    Nat.testBit_two_pow_sub_one, Nat.testBit_two_pow_sub_one, Nat.testBit_two_pow]
  by_cases hb : b < t + 1
  · simp only [hb, ↓reduceIte, decide_true, bne_iff_ne, ne_eq, decide_eq_decide]
    show ¬(b < t ↔ t = b)
    rcases Nat.lt_or_eq_of_le (Nat.le_of_lt_succ hb) with hlt | rfl
    · exact fun hiff => Nat.ne_of_gt hlt (hiff.mp hlt)
    · exact fun hiff => Nat.lt_irrefl _ (hiff.mpr rfl)
  · simp only [hb, ↓reduceIte, bne_self_eq_false, decide_false]

def gray (i : Nat) : Nat := i ^^^ (i >>> 1)

theorem gray_xor (a b : Nat) : gray (a ^^^ b) = gray a ^^^ gray b := by
  unfold gray
  rw [Nat.shiftRight_xor_distrib]
  ac_rfl

theorem gray_testBit (a k : Nat) : (gray a).testBit k = (a.testBit k != a.testBit (k + 1)) := by
  unfold gray
  rw [Nat.testBit_xor, Nat.testBit_shiftRight, Nat.add_comm]

theorem gray_lt (n a : Nat) (ha : a < 2 ^ n) : gray a < 2 ^ n :=
  Nat.xor_lt_two_pow ha (Nat.lt_of_le_of_lt (Nat.shiftRight_le a 1) ha)

theorem gray_mask (t : Nat) : gray (2 ^ (t + 1) - 1) = 2 ^ t := by
  apply Nat.eq_of_testBit_eq
  intro k
  rw [gray_testBit, Nat.testBit_two_pow_sub_one, Nat.testBit_two_pow_sub_one, Nat.testBit_two_pow, Bool.eq_iff_iff]
  simp only [bne_iff_ne, ne_eq, decide_eq_decide, decide_eq_true_eq]
  omega

/-- two consecutive Gray codes differ in exactly one bit -/
theorem gray_step (i : Nat) (hi : 1 ≤ i) : ∃ t, gray (i - 1) ^^^ gray i = 2 ^ t ∧ 2 ^ t ≤ i := by
  obtain ⟨t, h, hle⟩ := pred_xor_self i hi
  exact ⟨t, by rw [← gray_xor, h, gray_mask], hle⟩

theorem gray_injective {a b : Nat} (h : gray a = gray b) : a = b := by
  have h0 : gray (a ^^^ b) = 0 := by rw [gray_xor, h, Nat.xor_self]
  have hx : a ^^^ b = (a ^^^ b) >>> 1 := eq_of_xor_eq_zero h0
  exact eq_of_xor_eq_zero (by omega)

theorem gray_inj (n a b : Nat) (ha : a < 2 ^ n) (hb : b < 2 ^ n) (h : gray a = gray b) : a = b :=
  gray_injective h

theorem trailingZerosFuel_two_pow (fuel t : Nat) (h : t < fuel) : trailingZerosFuel fuel (2 ^ t) = t := by
  induction fuel generalizing t with
  | zero => exact absurd h (Nat.not_lt_zero t)
  | succ fuel ih =>
    cases t with
    | zero => rfl
    | succ t =>
      rw [trailingZerosFuel, Nat.pow_succ, Nat.mul_mod_left, Nat.mul_div_cancel _ (by decide), if_neg (by decide),
        ih t (Nat.lt_of_succ_lt_succ h), Nat.add_comm]

/-- the flip written at position k of the generated sequence -/
def flipOf (k : Nat) : Nat := trailingZeros (gray k ^^^ gray (k + 1))

theorem generateGrayFlips_eq (n : Nat) :
    generateGrayFlips n true = (List.range (2 ^ n - 1)).map flipOf ++ [n - 1] := by
  unfold generateGrayFlips flipOf gray
  simp only [Nat.one_shiftLeft, if_true, Nat.add_sub_cancel]

theorem flipOf_spec (k : Nat) (hk : k + 1 < 2 ^ 64) : 2 ^ flipOf k = gray k ^^^ gray (k + 1) := by
  obtain ⟨t, ht, hle⟩ := gray_step (k + 1) (Nat.succ_pos k)
  rw [Nat.add_sub_cancel] at ht
  rw [flipOf, ht, trailingZeros,
    trailingZerosFuel_two_pow 64 t ((Nat.pow_lt_pow_iff_right (by decide)).mp (Nat.lt_of_le_of_lt hle hk))]

theorem flipOf_lt {n k : Nat} (hn : n ≤ 64) (hk : k + 1 < 2 ^ n) : flipOf k < n := by
  apply (Nat.pow_lt_pow_iff_right (a := 2) (by decide)).mp
  rw [flipOf_spec k (Nat.lt_of_lt_of_le hk (Nat.pow_le_pow_right (by decide) hn))]
  exact Nat.xor_lt_two_pow (gray_lt n k (Nat.lt_of_succ_lt hk)) (gray_lt n (k + 1) hk)

theorem xorFlips_flipOf (j : Nat) (hj : j < 2 ^ 64) : xorFlips ((List.range j).map flipOf) = gray j := by
  induction j with
  | zero => rfl
  | succ j ih =>
    rw [List.range_succ, List.map_append, List.map_singleton, xorFlips_snoc, ih (Nat.lt_of_succ_lt hj),
      flipOf_spec j hj, ← Nat.xor_assoc, Nat.xor_self, Nat.zero_xor]

/-- the xor of the first j flips is the j-th Gray code -/
theorem prefix_gray (n : Nat) (hn : n ≤ 64) (j : Nat) (hj : j < 2 ^ n) :
    xorFlips (((List.range (2 ^ n - 1)).map flipOf).take j) = gray j := by
  rw [← List.map_take, List.take_range, Nat.min_eq_left (Nat.le_sub_one_of_lt hj)]
  exact xorFlips_flipOf j (Nat.lt_of_lt_of_le hj (Nat.pow_le_pow_right (by decide) hn))

theorem gray_flips_facts (n : Nat) (h1 : 1 ≤ n) (hn : n ≤ 64) :
    FlipFacts n (generateGrayFlips n true) ∧ FlipCover n (generateGrayFlips n true) := by
  have hbody : ((List.range (2 ^ n - 1)).map flipOf).length = 2 ^ n - 1 := by rw [List.length_map, List.length_range]
  have hlen : (generateGrayFlips n true).length = 2 ^ n := by
    rw [generateGrayFlips_eq, List.length_append, hbody]
    exact Nat.sub_add_cancel (Nat.two_pow_pos n)
  have hpre : ∀ j, j < 2 ^ n → xorFlips ((generateGrayFlips n true).take j) = gray j := by
    intro j hj
    rw [generateGrayFlips_eq, List.take_append_of_le_length (by rw [hbody]; exact Nat.le_sub_one_of_lt hj)]
    exact prefix_gray n hn j hj
  refine ⟨⟨?_, ?_, ?_⟩, ?_, hlen⟩
  · intro f hf
    rw [generateGrayFlips_eq, List.mem_append] at hf
    rcases hf with hf | hf
    · obtain ⟨k, hk, rfl⟩ := List.mem_map.mp hf
      exact flipOf_lt hn (Nat.add_lt_of_lt_sub (List.mem_range.mp hk))
    · rw [List.mem_singleton.mp hf]
      exact Nat.sub_lt h1 Nat.one_pos
  · -- all flips but the last lead to the last Gray code, 2^(n-1)
    have := hpre (2 ^ n - 1) (Nat.sub_lt (Nat.two_pow_pos n) Nat.one_pos)
    rw [generateGrayFlips_eq, List.take_left' hbody] at this
    have hg := gray_mask (n - 1)
    rw [Nat.sub_add_cancel h1] at hg
    rw [generateGrayFlips_eq, xorFlips_snoc, this, hg, Nat.xor_self]
  · exact List.ne_nil_of_length_pos (hlen ▸ Nat.two_pow_pos n)
  · -- the visited masks are the Gray codes 0 .. 2^n - 1
    rw [prefixXors_eq_map, hlen]
    refine nodup_map_of_injOn List.nodup_range fun a ha b hb e => ?_
    rw [Nat.zero_xor, Nat.zero_xor, hpre a (List.mem_range.mp ha), hpre b (List.mem_range.mp hb)] at e
    exact gray_injective e

end VoluteModel
