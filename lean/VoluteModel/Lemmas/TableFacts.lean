import VoluteModel.Model.Basic

/-!
# T1: characterisation of the constant tables regenerated from /repo/src

Each fact is a kernel computation (`decide`) over the table *as it is in the source now*: changing an
entry that the kernels read breaks the corresponding theorem (of `SWAP_INPUT_MASKS` these are the entries
`j < i`).  The `_size` facts other than `COUNT_MASKS_size` are obligations of the tie only; no proof uses them.
-/

namespace VoluteModel
open Gen

theorem VAR_MASK_size : VAR_MASK.size = 6 := by decide
theorem NUM_VARS_MASK_size : NUM_VARS_MASK.size = 7 := by decide
theorem COUNT_MASKS_size : COUNT_MASKS.size = 7 := by decide
theorem SWAP_INPUT_MASKS_size : SWAP_INPUT_MASKS.size = 6 ∧ ∀ i : Fin 6, (SWAP_INPUT_MASKS[i.val]!).size = 6 := by decide

theorem varMask_bit : ∀ i : Fin 6, ∀ k : Fin 64, (varMask i.val).getLsbD k.val = k.val.testBit i.val := by
  decide +kernel

theorem numVarsMaskTab_toNat : ∀ n : Fin 7, (NUM_VARS_MASK[n.val]!).toNat = 2 ^ (min (2 ^ n.val) 64) - 1 := by
  decide +kernel

theorem swapMask_eq : ∀ i j : Fin 6, j.val < i.val →
    swapMask i.val j.val = varMask j.val &&& ~~~ varMask i.val := by
  decide +kernel

theorem countMask_bit : ∀ c : Fin 7, ∀ b : Fin 64, (COUNT_MASKS[c.val]!).getLsbD b.val = decide (popc 6 b.val = c.val) := by
  decide +kernel

end VoluteModel
