/-!
# Generic exhaustive walk keeping the minimum (the loop of `*_canonization_ind`)

For any step function and strict order: over a closed walk it returns a visited state that no visited
state is below, with the index of a step that reaches it (`walk_spec`).
-/

namespace VoluteModel

variable {σ α : Type}

/-- the loop: state, best so far, its index, running index -/
def walkAux (step : σ → α → σ) (lt : σ → σ → Bool) : σ → σ → Nat → Nat → List α → σ × Nat
  | _, best, bi, _, [] => (best, bi)
  | s, best, bi, ind, x :: xs =>
    let s' := step s x
    if lt s' best then walkAux step lt s' s' ind (ind + 1) xs
    else walkAux step lt s' best bi (ind + 1) xs

/-- `s0` is also the first best; `b0` is the index reported if nothing is better -/
def walk (step : σ → α → σ) (lt : σ → σ → Bool) (s0 : σ) (b0 : Nat) (xs : List α) : σ × Nat :=
  walkAux step lt s0 s0 b0 0 xs

/-- the state after the first `k` steps -/
def stateAt (step : σ → α → σ) (s0 : σ) (xs : List α) (k : Nat) : σ := (xs.take k).foldl step s0

theorem stateAt_zero (step : σ → α → σ) (s0 : σ) (xs : List α) : stateAt step s0 xs 0 = s0 := rfl

theorem stateAt_cons (step : σ → α → σ) (s0 : σ) (x : α) (xs : List α) (k : Nat) :
    stateAt step s0 (x :: xs) (k + 1) = stateAt step (step s0 x) xs k := rfl

/-- The result is not above `best`; no visited state is below it; it is `(best, bi)` or a visited state with
    that state's index. -/
theorem walkAux_spec (step : σ → α → σ) (lt : σ → σ → Bool)
    (htrans : ∀ a b c, lt a b = true → lt b c = true → lt a c = true)
    (hirr : ∀ a, lt a a = false) (xs : List α) (s best : σ) (bi ind : Nat) :
    (∀ c, lt c best = false → lt c (walkAux step lt s best bi ind xs).1 = false) ∧
    (∀ k, k < xs.length → lt (stateAt step s xs (k + 1)) (walkAux step lt s best bi ind xs).1 = false) ∧
    (walkAux step lt s best bi ind xs = (best, bi) ∨
      ∃ k, k < xs.length ∧ walkAux step lt s best bi ind xs = (stateAt step s xs (k + 1), ind + k)) := by
  induction xs generalizing s best bi ind with
  | nil => exact ⟨fun c h => h, fun k hk => absurd hk (Nat.not_lt_zero k), Or.inl rfl⟩
  | cons x xs ih =>
    rw [walkAux]
    by_cases hlt : lt (step s x) best = true
    · rw [if_pos hlt]
      obtain ⟨hA, hB, hC⟩ := ih (step s x) (step s x) ind (ind + 1)
      refine ⟨fun c hc => hA c ?_, fun k hk => ?_, Or.inr ?_⟩
      · cases h : lt c (step s x) with
        | false => rfl
        | true => rw [htrans _ _ _ h hlt] at hc; cases hc
      · cases k with
        | zero => exact hA _ (hirr _)
        | succ k => exact hB k (Nat.lt_of_succ_lt_succ hk)
      · rcases hC with e | ⟨k, hk, e⟩
        · exact ⟨0, Nat.zero_lt_succ _, e⟩
        · exact ⟨k + 1, Nat.succ_lt_succ hk, by rw [e, stateAt_cons, Nat.add_right_comm, Nat.add_assoc]⟩
    · rw [if_neg hlt]
      obtain ⟨hA, hB, hC⟩ := ih (step s x) best bi (ind + 1)
      refine ⟨hA, fun k hk => ?_, ?_⟩
      · cases k with
        | zero => exact hA (step s x) (by simpa using hlt)
        | succ k => exact hB k (Nat.lt_of_succ_lt_succ hk)
      · rcases hC with e | ⟨k, hk, e⟩
        · exact Or.inl e
        · exact Or.inr ⟨k + 1, Nat.succ_lt_succ hk, by rw [e, stateAt_cons, Nat.add_right_comm, Nat.add_assoc]⟩

/-- closed walk, `b0` = closing index -/
theorem walk_spec (step : σ → α → σ) (lt : σ → σ → Bool)
    (htrans : ∀ a b c, lt a b = true → lt b c = true → lt a c = true)
    (hirr : ∀ a, lt a a = false)
    (s0 : σ) (xs : List α) (hne : 1 ≤ xs.length)
    (hclosed : stateAt step s0 xs xs.length = s0) :
    let r := walk step lt s0 (xs.length - 1) xs
    (∀ k, k ≤ xs.length → lt (stateAt step s0 xs k) r.1 = false) ∧
    r.2 < xs.length ∧ stateAt step s0 xs (r.2 + 1) = r.1 := by
  obtain ⟨hA, hB, hC⟩ := walkAux_spec step lt htrans hirr xs s0 s0 (xs.length - 1) 0
  refine ⟨fun k hk => ?_, ?_⟩
  · cases k with
    | zero => exact hA _ (hirr _)
    | succ k => exact hB k hk
  · rcases hC with e | ⟨k, hk, e⟩
    · simp only [walk, e]
      rw [Nat.sub_add_cancel hne]
      exact ⟨Nat.sub_lt hne Nat.one_pos, hclosed⟩
    · simp only [walk, e, Nat.zero_add]
      exact ⟨hk, trivial⟩

end VoluteModel
