import VoluteModel.Model.Text
import VoluteModel.Lemmas.Cmp

/-!
# Digits: printing fixed-width numbers and parsing them back

`digitsFixed k v w` writes `v` in base `2^k` and `ofDigits k` reads such a list; printing a table
word by word writes the digits of its number (`flatMap_digits`), for hex (`k = 4`) and binary alike.
At the end the ASCII facts about hex digits.
-/

namespace VoluteModel

/-- value of a digit list in base `2^k`, most significant first -/
def ofDigits (k : Nat) (ds : List Nat) : Nat := ds.foldl (fun a d => a * 2 ^ k + d) 0

/-- the fold is additive in its start value, which enters with the weight of the whole list -/
theorem foldl_digits (k : Nat) (ds : List Nat) (a c : Nat) :
    ds.foldl (fun a d => a * 2 ^ k + d) (a + c) = ds.foldl (fun a d => a * 2 ^ k + d) a + 2 ^ (k * ds.length) * c := by
  induction ds generalizing a c with
  | nil => rw [List.length_nil, Nat.mul_zero, Nat.pow_zero, Nat.one_mul]; rfl
  | cons d ds ih =>
    rw [List.foldl_cons, List.foldl_cons, Nat.add_mul, Nat.add_right_comm, ih, List.length_cons, Nat.mul_succ, Nat.pow_add,
      Nat.mul_assoc, Nat.mul_comm c]

theorem ofDigits_cons (k d : Nat) (ds : List Nat) :
    ofDigits k (d :: ds) = ofDigits k ds + 2 ^ (k * ds.length) * d := by
  rw [ofDigits, List.foldl_cons, Nat.zero_mul, foldl_digits]; rfl

theorem ofDigits_singleton (k d : Nat) : ofDigits k [d] = d := by
  rw [ofDigits, List.foldl_cons, Nat.zero_mul, Nat.zero_add]; rfl

theorem ofDigits_append (k : Nat) (as bs : List Nat) :
    ofDigits k (as ++ bs) = ofDigits k bs + 2 ^ (k * bs.length) * ofDigits k as := by
  rw [ofDigits, List.foldl_append, ← Nat.zero_add (List.foldl _ 0 as), foldl_digits]; rfl

theorem ofDigits_lt (k : Nat) (ds : List Nat) (h : ∀ d ∈ ds, d < 2 ^ k) : ofDigits k ds < 2 ^ (k * ds.length) := by
  induction ds with
  | nil => exact Nat.one_pos
  | cons d ds ih =>
    rw [ofDigits_cons, List.length_cons, Nat.mul_succ, Nat.pow_add]
    exact add_mul_lt (ih fun x hx => h x (List.mem_cons_of_mem _ hx)) (h d List.mem_cons_self)

theorem digitsFixed_succ (k v w : Nat) :
    digitsFixed k v (w + 1) = digitsFixed k (v >>> k) w ++ [v % 2 ^ k] := rfl

theorem digitsFixed_length (k v w : Nat) : (digitsFixed k v w).length = w := by
  induction w generalizing v with
  | zero => rfl
  | succ w ih => simp [digitsFixed, ih]

theorem digitsFixed_lt (k v w : Nat) : ∀ d ∈ digitsFixed k v w, d < 2 ^ k := by
  induction w generalizing v with
  | zero => intro d hd; simp [digitsFixed] at hd
  | succ w ih =>
    intro d hd
    simp only [digitsFixed, List.mem_append, List.mem_singleton] at hd
    rcases hd with hd | rfl
    · exact ih _ d hd
    · exact Nat.mod_lt _ (Nat.two_pow_pos k)

theorem digitsFixed_add (k v w₁ w₂ : Nat) :
    digitsFixed k v (w₁ + w₂) = digitsFixed k (v >>> (k * w₂)) w₁ ++ digitsFixed k v w₂ := by
  induction w₂ generalizing v with
  | zero => simp [digitsFixed]
  | succ w₂ ih =>
    rw [← Nat.add_assoc, digitsFixed_succ, digitsFixed_succ, ih, List.append_assoc, ← Nat.shiftRight_add,
      Nat.mul_succ, Nat.add_comm k]

theorem digitsFixed_mod (k v w : Nat) : digitsFixed k (v % 2 ^ (k * w)) w = digitsFixed k v w := by
  induction w generalizing v with
  | zero => rfl
  | succ w ih =>
    rw [digitsFixed_succ, digitsFixed_succ, Nat.mul_succ, Nat.add_comm, Nat.pow_add, Nat.shiftRight_eq_div_pow,
      Nat.mod_mul_right_div_self, ih, Nat.mod_mul_right_mod, Nat.shiftRight_eq_div_pow]

theorem ofDigits_digitsFixed (k v w : Nat) : ofDigits k (digitsFixed k v w) = v % 2 ^ (k * w) := by
  induction w generalizing v with
  | zero => rw [Nat.mul_zero, Nat.pow_zero, Nat.mod_one]; rfl
  | succ w ih =>
    rw [digitsFixed_succ, ofDigits_append, ih, ofDigits_singleton, List.length_singleton, Nat.mul_one, Nat.mul_succ,
      Nat.add_comm (k * w), Nat.pow_add, Nat.mod_mul, Nat.shiftRight_eq_div_pow]

theorem digitsFixed_getElem (k v w i : Nat) (hi : i < w) :
    (digitsFixed k v w)[w - 1 - i]? = some (v / 2 ^ (k * i) % 2 ^ k) := by
  obtain ⟨j, rfl⟩ := Nat.exists_eq_add_of_lt hi
  rw [Nat.add_sub_cancel, Nat.add_sub_cancel_left, Nat.add_assoc, Nat.add_comm i, digitsFixed_add, digitsFixed_succ,
    List.getElem?_append_left (by rw [List.length_append, digitsFixed_length]; exact Nat.lt_succ_self j),
    List.getElem?_append_right (by rw [digitsFixed_length]; exact Nat.le_refl j), digitsFixed_length, Nat.sub_self,
    Nat.shiftRight_eq_div_pow]
  rfl

/-- words most significant first, `c` digits of `k` bits each: the digits of the table's number.  `hc`: `toNatLE`
    reads base `2^64`, hence several words only when a word is full; a table is one or the other (`wordBits_split`) -/
theorem flatMap_digits (k c : Nat) (g : Nat → Nat) (fmt : W → List Nat) (ws : List W)
    (hfmt : ∀ w ∈ ws, fmt w = (digitsFixed k w.toNat c).map g) (hc : k * c = 64 ∨ ws.length ≤ 1) :
    ws.reverse.flatMap fmt = (digitsFixed k (toNatLE ws) (c * ws.length)).map g := by
  induction ws with
  | nil => rfl
  | cons a as ih =>
    rw [List.reverse_cons, List.flatMap_append, List.flatMap_singleton, hfmt a List.mem_cons_self, List.length_cons]
    rcases hc with hc | hc
    · rw [ih (fun w hw => hfmt w (List.mem_cons_of_mem _ hw)) (Or.inl hc), Nat.mul_succ, digitsFixed_add, hc,
        Nat.shiftRight_eq_div_pow, toNatLE_cons_div, ← digitsFixed_mod k (toNatLE (a :: as)), hc, toNatLE_cons_mod,
        List.map_append]
    · cases as with
      | nil => rw [toNatLE_singleton, List.length_nil, Nat.zero_add, Nat.mul_one]; rfl
      | cons _ _ => exact absurd hc (by simp)

/-- makes the `max width (numDigits ..)` of the word printers `width`; `numDigits` counts to `fuel + 1` at most,
    whence the bound on `w` -/
theorem numDigits_le (k v fuel w : Nat) (hv : v < 2 ^ (k * w)) (hw1 : 1 ≤ w) (hwf : w ≤ fuel + 1) :
    numDigits k v fuel ≤ w := by
  induction fuel generalizing v w with
  | zero => exact hw1
  | succ fuel ih =>
    rw [numDigits]
    split
    · exact hw1
    · rename_i hge
      obtain ⟨w, rfl⟩ := Nat.exists_eq_succ_of_ne_zero (Nat.ne_of_gt hw1)
      rw [Nat.mul_succ, Nat.add_comm, Nat.pow_add] at hv
      have hw : 1 ≤ w := Nat.pos_of_ne_zero fun h => by
        rw [h, Nat.mul_zero, Nat.pow_zero, Nat.mul_one] at hv; exact hge hv
      rw [Nat.add_comm]
      exact Nat.succ_le_succ (ih (v >>> k) w (by rw [Nat.shiftRight_eq_div_pow]; exact Nat.div_lt_of_lt_mul hv) hw
        (Nat.le_of_succ_le_succ hwf))

theorem compare_hexDigit (d e : Nat) : compare (hexDigit d) (hexDigit e) = compare d e := by
  have hlt : ∀ {d e : Nat}, d < e → hexDigit d < hexDigit e := fun h => by
    unfold hexDigit; split <;> split <;> omega
  rcases Nat.lt_trichotomy d e with h | rfl | h
  · rw [Nat.compare_eq_lt.mpr h, Nat.compare_eq_lt.mpr (hlt h)]
  · rw [Nat.compare_eq_eq.mpr rfl, Nat.compare_eq_eq.mpr rfl]
  · rw [Nat.compare_eq_gt.mpr h, Nat.compare_eq_gt.mpr (hlt h)]

theorem hexVal_hexDigit (d : Nat) (hd : d < 16) : hexVal (hexDigit d) = some d := by
  unfold hexDigit hexVal
  by_cases h : d < 10
  · rw [if_pos h, if_pos (by omega), Nat.add_sub_cancel_left]
  · rw [if_neg h, if_neg (by omega), if_pos (by omega), Nat.add_sub_cancel_left]

/-- what the checks of `fill_hex` and `from_str_radix` ask of a hex digit (either case) -/
theorem isHexDigit_spec {c : Nat} (h : isHexDigit c = true) : ∃ d, hexVal c = some d ∧ d < 16 ∧ c < 128 ∧ c ≠ 43 := by
  obtain ⟨d, hd⟩ := Option.isSome_iff_exists.mp h
  refine ⟨d, hd, ?_⟩
  unfold hexVal at hd
  by_cases h1 : 48 ≤ c ∧ c ≤ 57
  · rw [if_pos h1] at hd; cases hd; omega
  rw [if_neg h1] at hd
  by_cases h2 : 97 ≤ c ∧ c ≤ 102
  · rw [if_pos h2] at hd; cases hd; omega
  rw [if_neg h2] at hd
  by_cases h3 : 65 ≤ c ∧ c ≤ 70
  · rw [if_pos h3] at hd; cases hd; omega
  · rw [if_neg h3] at hd; cases hd

end VoluteModel
