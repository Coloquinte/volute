import VoluteModel.Model.Text
import VoluteModel.Spec.EvalText

/-!
# Printing token lists and reading them back (for C16)

`render` prints a token list; on well-formed lists (`WFT`) the lexer of Spec/EvalText.lean gives the
tokens back (`lex_render`), and `splitTok` gives back the pieces of a list joined by an operator.
-/

namespace VoluteModel
open Spec

/-- the canonical printer of a token list -/
def render : List Tok → List Nat
  | [] => []
  | .var i :: r => 120 :: (decDigits i ++ render r)
  | .not :: r => 33 :: render r
  | .zero :: r => 48 :: render r
  | .one :: r => 49 :: render r
  | .xor :: r => 32 :: 94 :: 32 :: render r
  | .or :: r => 32 :: 124 :: 32 :: render r

/-- what `WFT` asks of the tokens after a variable (`WFT_cons_var`) -/
def NoConstHead (rest : List Tok) : Prop :=
  match rest with | .zero :: _ => False | .one :: _ => False | _ => True

/-- Indices below 32 only because `dec_facts`, by which `lexFuel_render` reads a decimal index back, is a `decide`
    over `Fin 32` (the width of the cube masks; `render` and `lex` do not depend on it).  No constant directly
    after a variable: it would merge with the decimal index. -/
def WFT : List Tok → Prop
  | [] => True
  | .var i :: r => i < 32 ∧ (match r with | .zero :: _ => False | .one :: _ => False | _ => True) ∧ WFT r
  | _ :: r => WFT r

theorem WFT_cons_var (i : Nat) (r : List Tok) : WFT (.var i :: r) ↔ i < 32 ∧ NoConstHead r ∧ WFT r := Iff.rfl

theorem render_append (a b : List Tok) : render (a ++ b) = render a ++ render b := by
  induction a with
  | nil => rfl
  | cons t a ih => cases t <;> simp [render, ih]

theorem WFT_append (x y : List Tok) (hx : WFT x) (hy : WFT y) (hh : NoConstHead y) : WFT (x ++ y) := by
  induction x with
  | nil => exact hy
  | cons t r ih =>
    cases t with
    | var i =>
      obtain ⟨hi, hn, hr⟩ := (WFT_cons_var i r).mp hx
      refine (WFT_cons_var i (r ++ y)).mpr ⟨hi, ?_, ih hr⟩
      cases r with
      | nil => exact hh
      | cons t' r' => cases t' <;> exact hn
    | _ => exact ih hx

theorem WFT_of_lits : ∀ ts : List Tok, (∀ t ∈ ts, t = .not ∨ ∃ j, j < 32 ∧ t = .var j) → WFT ts
  | [], _ => trivial
  | t :: ts, h => by
    have w := WFT_of_lits ts fun t ht => h t (List.mem_cons_of_mem _ ht)
    rcases h t List.mem_cons_self with rfl | ⟨j, hj, rfl⟩
    · exact w
    · refine (WFT_cons_var j ts).mpr ⟨hj, ?_, w⟩
      match ts, h with
      | [], _ => trivial
      | t' :: _, h => rcases h t' (by simp) with rfl | ⟨_, _, rfl⟩ <;> trivial

/-- the decimal digits of an index are digits, at least one, and `lexNum`'s fold reads them back -/
theorem dec_facts : ∀ i : Fin 32,
    (decDigits i.val).all isDigit = true ∧ (decDigits i.val).length ≥ 1 ∧
    (decDigits i.val).foldl (fun v c => v * 10 + (c - 48)) 0 = i.val := by decide +kernel

theorem lexNum_digits (ds rest : List Nat) (v k : Nat) (hd : ds.all isDigit = true)
    (hr : rest = [] ∨ ∃ c r, rest = c :: r ∧ isDigit c = false) :
    lexNum (ds ++ rest) v k = (ds.foldl (fun v c => v * 10 + (c - 48)) v, k + ds.length, rest) := by
  induction ds generalizing v k with
  | nil =>
    rcases hr with rfl | ⟨c, r, rfl, hc⟩
    · rfl
    · simp [lexNum, hc]
  | cons d ds ih =>
    rw [List.all_cons, Bool.and_eq_true] at hd
    rw [List.cons_append, lexNum, if_pos hd.1, ih _ _ hd.2, List.foldl_cons, List.length_cons, Nat.add_right_comm,
      Nat.add_assoc]

theorem render_head (r : List Tok) (h : NoConstHead r) :
    render r = [] ∨ ∃ c s, render r = c :: s ∧ isDigit c = false := by
  match r, h with
  | [], _ => left; rfl
  | .var i :: r, _ => right; exact ⟨120, _, rfl, by decide⟩
  | .not :: r, _ => right; exact ⟨33, _, rfl, by decide⟩
  | .xor :: r, _ => right; exact ⟨32, _, rfl, by decide⟩
  | .or :: r, _ => right; exact ⟨32, _, rfl, by decide⟩

/-! the lexer's character table, one equation per token -/

theorem lexFuel_not (f : Nat) (cs : List Nat) : lexFuel (f + 1) (33 :: cs) = (lexFuel f cs).map (Tok.not :: ·) := rfl
theorem lexFuel_zero (f : Nat) (cs : List Nat) : lexFuel (f + 1) (48 :: cs) = (lexFuel f cs).map (Tok.zero :: ·) := rfl
theorem lexFuel_one (f : Nat) (cs : List Nat) : lexFuel (f + 1) (49 :: cs) = (lexFuel f cs).map (Tok.one :: ·) := rfl
theorem lexFuel_xor (f : Nat) (cs : List Nat) :
    lexFuel (f + 3) (32 :: 94 :: 32 :: cs) = (lexFuel f cs).map (Tok.xor :: ·) := rfl
theorem lexFuel_or (f : Nat) (cs : List Nat) :
    lexFuel (f + 3) (32 :: 124 :: 32 :: cs) = (lexFuel f cs).map (Tok.or :: ·) := rfl
theorem lexFuel_var (f : Nat) (cs : List Nat) : lexFuel (f + 1) (120 :: cs) =
    if (lexNum cs 0 0).2.1 = 0 then none
    else (lexFuel f (lexNum cs 0 0).2.2).map (Tok.var (lexNum cs 0 0).1 :: ·) := rfl

/-- the fuel for a token of `k` characters, split off -/
theorem lt_fuel {n fuel : Nat} (k : Nat) (h : n + k < fuel) : ∃ f, fuel = f + k ∧ n < f :=
  ⟨fuel - k, (Nat.sub_add_cancel (Nat.le_of_lt (Nat.lt_of_le_of_lt (Nat.le_add_left k n) h))).symm,
    Nat.lt_sub_of_add_lt h⟩

theorem lexFuel_render (toks : List Tok) (h : WFT toks) (fuel : Nat) (hf : (render toks).length < fuel) :
    lexFuel fuel (render toks) = some toks := by
  induction toks generalizing fuel with
  | nil => cases fuel <;> rfl
  | cons t r ih =>
    cases t with
    | var i =>
      obtain ⟨hi, hnext, hr⟩ := (WFT_cons_var i r).mp h
      -- the one use of `i < 32`
      obtain ⟨d1, d2, d3⟩ := dec_facts ⟨i, hi⟩
      obtain ⟨f, rfl, h1⟩ := lt_fuel 1 hf
      rw [List.length_append] at h1
      -- `lexNum` reads the digits of `i` up to the next token, which `WFT` keeps from starting with a digit
      rw [render, lexFuel_var, lexNum_digits (decDigits i) (render r) 0 0 d1 (render_head r hnext),
        if_neg (Nat.ne_of_gt (Nat.lt_of_lt_of_le d2 (Nat.le_add_left _ _))), d3,
        ih hr f (Nat.lt_of_le_of_lt (Nat.le_add_left _ _) h1)]
      rfl
    | not =>
      obtain ⟨f, rfl, h1⟩ := lt_fuel 1 hf
      rw [render, lexFuel_not, ih h f h1]; rfl
    | zero =>
      obtain ⟨f, rfl, h1⟩ := lt_fuel 1 hf
      rw [render, lexFuel_zero, ih h f h1]; rfl
    | one =>
      obtain ⟨f, rfl, h1⟩ := lt_fuel 1 hf
      rw [render, lexFuel_one, ih h f h1]; rfl
    | xor =>
      obtain ⟨f, rfl, h1⟩ := lt_fuel 3 hf
      rw [render, lexFuel_xor, ih h f h1]; rfl
    | or =>
      obtain ⟨f, rfl, h1⟩ := lt_fuel 3 hf
      rw [render, lexFuel_or, ih h f h1]; rfl

/-- lexing what was printed gives the tokens back -/
theorem lex_render (toks : List Tok) (h : WFT toks) : lex (render toks) = some toks :=
  lexFuel_render toks h _ (Nat.lt_succ_self _)

theorem splitTok_nosep (sep : Tok) (ts : List Tok) (h : sep ∉ ts) : splitTok sep ts = [ts] := by
  induction ts with
  | nil => rfl
  | cons t ts ih =>
    rw [List.mem_cons, not_or] at h
    simp only [splitTok, ih h.2, Ne.symm h.1, if_false]

theorem splitTok_ne_nil (sep : Tok) (l : List Tok) : splitTok sep l ≠ [] := by
  cases l with
  | nil => exact List.cons_ne_nil _ _
  | cons t l =>
    rw [splitTok]
    split
    · exact List.cons_ne_nil _ _
    · split <;> exact List.cons_ne_nil _ _

theorem splitTok_append_sep (sep : Tok) (g rest : List Tok) (h : sep ∉ g) :
    splitTok sep (g ++ sep :: rest) = g :: splitTok sep rest := by
  induction g with
  | nil =>
    rw [List.nil_append, splitTok]
    split
    next hr => exact absurd hr (splitTok_ne_nil sep rest)
    next hr => rw [if_pos rfl, hr]
  | cons t g ih =>
    rw [List.mem_cons, not_or] at h
    simp only [List.cons_append, splitTok, ih h.2, Ne.symm h.1, if_false]

end VoluteModel
