import VoluteModel.Model.Sop
import VoluteModel.Lemmas.Guards
import VoluteModel.Lemmas.ListFacts

/-!
# Cubes, literal by literal

A cube is a pair of 32-bit literal sets and an assignment is truncated to 32 bits (`mask as u32`).  Every
operation is read on single literals: a cube is true when its positive literals are among the ones of the
assignment and its negative literals among the zeros, it implies another when it contains the other's
literals, it is contradictory when a variable is in both sets.  What `&`, `intersects`, `minterm` and
`num_lits` do is stated by the theorems of `Props/C12` (of `from_vars` only that it keeps the invariant).
-/

namespace VoluteModel.Cubes

theorem no_bit_of_zero (v : Nat) : ¬ (0 : W32).getLsbD v = true := Bool.eq_false_iff.mp BitVec.getLsbD_zero

theorem ones_bit (v : Nat) (hv : v < 32) : (~~~ (0 : W32)).getLsbD v = true :=
  (not_bit 0 hv).trans (congrArg (!·) BitVec.getLsbD_zero)

theorem ofNat32_inj {n i j : Nat} (hn : n ≤ 32) (hi : i ∈ List.range (1 <<< n)) (hj : j ∈ List.range (1 <<< n))
    (h : BitVec.ofNat 32 i = BitVec.ofNat 32 j) : i = j := by
  have lt : ∀ {a}, a ∈ List.range (1 <<< n) → a < 2 ^ 32 := fun h =>
    Nat.lt_of_lt_of_le (List.mem_range.mp h) (Nat.one_shiftLeft n ▸ Nat.pow_le_pow_right (by decide) hn)
  have := congrArg BitVec.toNat h
  rwa [BitVec.toNat_ofNat, BitVec.toNat_ofNat, Nat.mod_eq_of_lt (lt hi), Nat.mod_eq_of_lt (lt hj)] at this

theorem ne_zero_bit (x : W32) (h : x ≠ 0) : ∃ k, k < 32 ∧ x.getLsbD k = true :=
  have ⟨k, hk⟩ := Nat.exists_testBit_of_ne_zero fun e : x.toNat = 0 => h (BitVec.eq_of_toNat_eq e)
  ⟨k, BitVec.lt_of_getLsbD hk, hk⟩

theorem and_one_ne (x : W32) : (x &&& 1 != 0) = x.getLsbD 0 := by
  show (x &&& 1#32 != 0#32) = _
  rw [BitVec.and_one_eq_setWidth_ofBool_getLsbD]
  cases x.getLsbD 0 <;> rfl

theorem or_eq_left_iff (x y : W32) : x ||| y = x ↔ ∀ v, y.getLsbD v = true → x.getLsbD v = true := by
  constructor
  · intro h v hy
    rw [← h, BitVec.getLsbD_or, hy, Bool.or_true]
  · intro h
    apply BitVec.eq_of_getLsbD_eq
    intro v _
    rw [BitVec.getLsbD_or]
    cases hy : y.getLsbD v
    · exact Bool.or_false _
    · rw [h v hy]; rfl

/-- the test `(p & x) | !p == !0` of `Cube::value` -/
theorem and_or_not_allOnes_iff (p x : W32) :
    ((p &&& x) ||| ~~~ p == ~~~ 0) = true ↔ ∀ v, p.getLsbD v = true → x.getLsbD v = true := by
  rw [bv_beq_iff, BitVec.eq_of_getLsbD_eq_iff]
  refine forall_congr' fun v => ⟨fun h hp => ?_, fun h hv => ?_⟩
  · have := h (BitVec.lt_of_getLsbD hp)
    rwa [ones_bit v (BitVec.lt_of_getLsbD hp), BitVec.getLsbD_or, BitVec.getLsbD_and, BitVec.getLsbD_not, hp,
      Bool.not_true, Bool.and_false, Bool.or_false] at this
  · rw [ones_bit v hv, BitVec.getLsbD_or, BitVec.getLsbD_and, not_bit p hv]
    cases hp : p.getLsbD v
    · rfl
    · rw [h hp]; rfl

/-- the members of `pos_vars` / `neg_vars` -/
theorem mem_vars_iff (x : W32) (v : Nat) :
    v ∈ (List.range 32).filter (fun v => (x >>> v) &&& 1 != 0) ↔ x.getLsbD v = true := by
  rw [List.mem_filter, List.mem_range, and_one_ne, BitVec.getLsbD_ushiftRight]
  exact and_iff_right_of_imp BitVec.lt_of_getLsbD

theorem value_lits_iff (c : Cube) (m : Nat) : c.value m = true ↔
    (∀ v, c.pos.getLsbD v = true → m.testBit v = true) ∧ (∀ v, c.neg.getLsbD v = true → m.testBit v = false) := by
  unfold Cube.value
  rw [Bool.and_eq_true, and_or_not_allOnes_iff, and_or_not_allOnes_iff]
  refine and_congr (forall_congr' fun v => imp_congr_right fun hp => ?_)
    (forall_congr' fun v => imp_congr_right fun hn => ?_)
  · rw [ofNat_bit m (BitVec.lt_of_getLsbD hp)]
  · rw [not_bit _ (BitVec.lt_of_getLsbD hn), ofNat_bit m (BitVec.lt_of_getLsbD hn), Bool.not_eq_true']

theorem value_pos_iff (p : W32) (m : Nat) :
    (⟨p, 0⟩ : Cube).value m = true ↔ ∀ v, p.getLsbD v = true → m.testBit v = true :=
  (value_lits_iff _ m).trans (and_iff_left fun v h => absurd h (no_bit_of_zero v))

theorem value_neg_iff (q : W32) (m : Nat) :
    (⟨0, q⟩ : Cube).value m = true ↔ ∀ v, q.getLsbD v = true → m.testBit v = false :=
  (value_lits_iff _ m).trans (and_iff_right fun v h => absurd h (no_bit_of_zero v))

theorem value_of_isOne (c : Cube) (h : c.isOne = true) (m : Nat) : c.value m = true := by
  rw [Cube.isOne, Bool.and_eq_true, bv_beq_iff, bv_beq_iff] at h
  rw [value_lits_iff, h.1, h.2]
  exact ⟨fun v hp => absurd hp (no_bit_of_zero v), fun v hn => absurd hn (no_bit_of_zero v)⟩

theorem nthVar_value (v : Nat) (hv : v < 32) (m : Nat) :
    (Cube.nthVar v).value m = m.testBit v ∧ (Cube.nthVarInv v).value m = !m.testBit v := by
  have hbit : ∀ k, ((1#32 : W32) <<< v).getLsbD k = true ↔ k = v := by
    intro k
    rw [one_shl_bit, Bool.and_eq_true, decide_eq_true_eq, decide_eq_true_eq]
    exact ⟨fun h => h.2, fun h => ⟨h ▸ hv, h⟩⟩
  constructor <;> apply Bool.eq_iff_iff.mpr
  · rw [Cube.nthVar, value_pos_iff]
    exact ⟨fun h => h v ((hbit v).mpr rfl), fun h k hk => (hbit k).mp hk ▸ h⟩
  · rw [Cube.nthVarInv, value_neg_iff, Bool.not_eq_true']
    exact ⟨fun h => h v ((hbit v).mpr rfl), fun h k hk => (hbit k).mp hk ▸ h⟩

theorem isZero_lits_iff (c : Cube) : c.isZero = true ↔ ∃ v, c.pos.getLsbD v = true ∧ c.neg.getLsbD v = true := by
  unfold Cube.isZero
  rw [bv_bne_iff]
  constructor
  · intro h
    obtain ⟨v, _, hb⟩ := ne_zero_bit _ h
    rw [BitVec.getLsbD_and, Bool.and_eq_true] at hb
    exact ⟨v, hb⟩
  · rintro ⟨v, hp, hn⟩ h0
    have := congrArg (fun x => x.getLsbD v) h0
    simp [hp, hn] at this

theorem neg_of_pos {c : Cube} (h : c.isZero = false) {v : Nat} (hp : c.pos.getLsbD v = true) :
    c.neg.getLsbD v = false :=
  Bool.eq_false_iff.mpr fun hn => Bool.false_ne_true (h.symm.trans ((isZero_lits_iff c).mpr ⟨v, hp, hn⟩))

theorem not_isZero_of_value {c : Cube} {m : Nat} (h : c.value m = true) : c.isZero = false :=
  Bool.eq_false_iff.mpr fun hz => by
    obtain ⟨v, hp, hn⟩ := (isZero_lits_iff c).mp hz
    obtain ⟨h1, h2⟩ := (value_lits_iff c m).mp h
    exact Bool.false_ne_true ((h2 v hn).symm.trans (h1 v hp))

theorem value_of_isZero (c : Cube) (h : c.isZero = true) (m : Nat) : c.value m = false :=
  Bool.eq_false_iff.mpr fun hv => Bool.false_ne_true ((not_isZero_of_value hv).symm.trans h)

theorem zero_isZero : Cube.zero.isZero = true := by decide

theorem ne_zero_of_value {c : Cube} {m : Nat} (h : c.value m = true) : c ≠ Cube.zero := fun e => by
  rw [e, value_of_isZero _ zero_isZero] at h; cases h

theorem fromMask_def (p q : W32) : Cube.fromMask p q = if (⟨p, q⟩ : Cube).isZero then Cube.zero else ⟨p, q⟩ := rfl

theorem fromMask_value (p q : W32) (m : Nat) : (Cube.fromMask p q).value m = (⟨p, q⟩ : Cube).value m := by
  rw [fromMask_def]
  split
  · rename_i hz
    rw [value_of_isZero _ zero_isZero, value_of_isZero _ hz]
  · rfl

theorem fromMask_pos (p : W32) : Cube.fromMask p 0 = ⟨p, 0⟩ := by
  rw [fromMask_def, if_neg]
  show ¬ (p &&& 0#32 != 0#32) = true
  rw [BitVec.and_zero]; decide

theorem implies_lits_iff (a b : Cube) : a.implies b = true ↔
    (∀ v, b.pos.getLsbD v = true → a.pos.getLsbD v = true) ∧
    (∀ v, b.neg.getLsbD v = true → a.neg.getLsbD v = true) := by
  rw [← or_eq_left_iff, ← or_eq_left_iff, Cube.implies, Bool.and_eq_true, bv_beq_iff, bv_beq_iff]

theorem implies_refl (a : Cube) : a.implies a = true :=
  (implies_lits_iff a a).mpr ⟨fun _ h => h, fun _ h => h⟩

theorem implies_trans (a b c : Cube) (h1 : a.implies b = true) (h2 : b.implies c = true) : a.implies c = true := by
  rw [implies_lits_iff] at *
  exact ⟨fun v h => h1.1 v (h2.1 v h), fun v h => h1.2 v (h2.2 v h)⟩

theorem implies_antisymm (a b : Cube) (h1 : a.implies b = true) (h2 : b.implies a = true) : a = b := by
  simp only [Cube.implies, Bool.and_eq_true, bv_beq_iff] at h1 h2
  rw [Cube.mk.injEq]
  exact ⟨h1.1.symm.trans ((BitVec.or_comm ..).trans h2.1), h1.2.symm.trans ((BitVec.or_comm ..).trans h2.2)⟩

theorem implies_sound (a b : Cube) (h : a.implies b = true) (m : Nat) (hm : a.value m = true) : b.value m = true := by
  obtain ⟨hp, hn⟩ := (implies_lits_iff a b).mp h
  rw [value_lits_iff] at hm ⊢
  exact ⟨fun v h => hm.1 v (hp v h), fun v h => hm.2 v (hn v h)⟩

/-- the loop of both `implies_lut` -/
theorem implicant_loop_iff (val : Nat → Bool) (l : Lut) :
    (List.range (Dyn.numBits l)).all (fun i => !(val i && !(getBit l.t i))) = true ↔
      ∀ m, m < 2 ^ l.n → val m = true → getBit l.t m = true := by
  simp only [Dyn.numBits_eq, List.all_eq_true, List.mem_range]
  exact forall_congr' fun m => forall_congr' fun _ => by cases val m <;> simp

theorem mem_all_iff (n : Nat) (c : Cube) : c ∈ Cube.all n ↔
    (∃ i j, i < 2 ^ n ∧ j < 2 ^ n ∧ c = ⟨BitVec.ofNat 32 i, BitVec.ofNat 32 j⟩) ∧ c.isZero = false := by
  unfold Cube.all
  simp only [List.mem_filter, List.mem_flatMap, List.mem_map, List.mem_range, Nat.one_shiftLeft, Bool.not_eq_true']
  constructor
  · rintro ⟨⟨i, hi, j, hj, rfl⟩, hz⟩
    exact ⟨⟨i, j, hi, hj, rfl⟩, hz⟩
  · rintro ⟨⟨i, j, hi, hj, rfl⟩, hz⟩
    exact ⟨⟨i, hi, j, hj, rfl⟩, hz⟩

/-- one more variable: a mask `i < 2^n` is disjoint from `j` and from `2^n + j` alike, `2^n + i` from `j` only -/
theorem countP_disjoint_succ {n i : Nat} {B : List Nat} (hi : i < 2 ^ n) (hB : ∀ j ∈ B, j < 2 ^ n) :
    (B ++ B.map (2 ^ n + ·) : List Nat).countP (fun j => i &&& j == 0) = 2 * B.countP (fun j => i &&& j == 0) ∧
    (B ++ B.map (2 ^ n + ·) : List Nat).countP (fun j => (2 ^ n + i) &&& j == 0) =
      1 * B.countP (fun j => i &&& j == 0) := by
  have z : ∀ {i : Nat}, i < 2 ^ n → i &&& 2 ^ n = 0 := fun {i} h => by
    rw [and_two_pow i n, Nat.testBit_lt_two_pow h]; rfl
  have e : ∀ {j : Nat}, j < 2 ^ n → 2 ^ n + j = j ||| 2 ^ n := fun {j} h =>
    (Nat.add_comm (2 ^ n) j).trans (Nat.or_two_pow_eq_add_of_lt h).symm
  constructor
  · rw [List.countP_append, List.countP_map, Nat.two_mul]
    refine congrArg _ (List.countP_congr fun j hj => ?_)
    rw [Function.comp_apply, e (hB j hj), Nat.and_or_distrib_left, z hi, Nat.or_zero]
  · have hz : B.countP ((fun j => (i ||| 2 ^ n) &&& j == 0) ∘ (2 ^ n + ·)) = 0 :=
      List.countP_eq_zero.mpr fun j hj => by
        rw [Function.comp_apply, e (hB j hj), Nat.and_or_distrib_left, Nat.and_or_distrib_right,
          Nat.and_or_distrib_right, Nat.and_self]
        simp [Nat.or_eq_zero_iff]
    rw [List.countP_append, List.countP_map, Nat.one_mul, e hi, hz, Nat.add_zero]
    refine List.countP_congr fun j hj => ?_
    rw [Nat.and_or_distrib_right, Nat.and_comm (2 ^ n), z (hB j hj), Nat.or_zero]

/-- the pairs of disjoint masks below `2^n`: every variable is in neither, in the first or in the second -/
theorem count_disjoint (n : Nat) :
    ((List.range (2 ^ n)).map fun i => (List.range (2 ^ n)).countP fun j => i &&& j == 0).sum = 3 ^ n := by
  induction n with
  | zero => rfl
  | succ n ih =>
    have hR : ∀ i ∈ List.range (2 ^ n), i < 2 ^ n := fun _ => List.mem_range.mp
    rw [Nat.pow_succ, Nat.mul_two, List.range_add, List.map_append, List.map_map, List.sum_append_nat]
    simp only [Function.comp_def]
    rw [sum_map_mul _ _ _ 2 fun i hi => (countP_disjoint_succ (hR i hi) hR).1,
      sum_map_mul _ _ _ 1 fun i hi => (countP_disjoint_succ (hR i hi) hR).2, ih, Nat.pow_succ]
    omega

/-- `Cube::all(n)` has 3^n members (n <= 32: the masks `i`, `j` and `i &&& j` are read back from 32-bit words) -/
theorem all_length (n : Nat) (hn : n ≤ 32) : (Cube.all n).length = 3 ^ n := by
  rw [← count_disjoint, Cube.all, ← List.countP_eq_length_filter, List.countP_flatMap, Nat.one_shiftLeft]
  refine congrArg List.sum (List.map_congr_left fun i hi => ?_)
  rw [Function.comp_apply, List.countP_map]
  refine List.countP_congr fun j hj => ?_
  have hk : i &&& j ∈ List.range (1 <<< n) := by
    rw [Nat.one_shiftLeft]; exact List.mem_range.mpr (Nat.lt_of_le_of_lt Nat.and_le_left (List.mem_range.mp hi))
  have h0 : 0 ∈ List.range (1 <<< n) := List.mem_range.mpr (Nat.one_shiftLeft n ▸ Nat.two_pow_pos n)
  rw [Function.comp_apply, Cube.isZero, Bool.not_eq_true', bv_bne_eq_false_iff, ← BitVec.ofNat_and, beq_iff_eq]
  exact ⟨fun h => ofNat32_inj hn hk h0 h, fun h => by rw [h]; rfl⟩

end VoluteModel.Cubes
