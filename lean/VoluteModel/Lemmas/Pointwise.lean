import VoluteModel.Model.Ops
import VoluteModel.Lemmas.Bits

/-!
# Kernels that treat every position alike, or touch one position

The binary operators, NOT, the zero table, `get_bit` / `set_bit` / `unset_bit` and the toggle built from
them.  For each the value on assignments comes first and well-formedness follows from it through
`WF_iff_bit`; NOT, which masks every word it writes, gets both at once from `masked_words`.
-/

namespace VoluteModel

theorem bit_zipWith_op (f : W → W → W) (op : Bool → Bool → Bool)
    (hf : ∀ x y i, (f x y).getLsbD i = op (x.getLsbD i) (y.getLsbD i)) (h0 : op false false = false)
    (a b : Array W) (hs : a.size = b.size) (m : Nat) :
    bit (Array.zipWith f a b) m = op (bit a m) (bit b m) := by
  have hz : (Array.zipWith f a b).size = a.size := by rw [Array.size_zipWith, ← hs, Nat.min_self]
  by_cases hw : m / 64 < a.size
  · have hb : m / 64 < b.size := hs ▸ hw
    rw [bit_eq_getElem hw, bit_eq_getElem hb, ← hf, bit_eq_getElem (hz.symm ▸ hw), Array.getElem_zipWith]
  · have hle := Nat.le_of_not_lt hw
    rw [bit_of_size_le (t := a) hle, bit_of_size_le (t := b) (hs ▸ hle), h0, bit_of_size_le (hz.symm ▸ hle)]

theorem zipWith_WF (f : W → W → W) (op : Bool → Bool → Bool)
    (hf : ∀ x y i, (f x y).getLsbD i = op (x.getLsbD i) (y.getLsbD i)) (h0 : op false false = false)
    (n : Nat) (a b : Array W) (ha : WF n a) (hb : WF n b) : WF n (Array.zipWith f a b) :=
  have hs : a.size = b.size := ha.size.trans hb.size.symm
  (WF_iff_bit n _).mpr ⟨by rw [Array.size_zipWith, ← hs, Nat.min_self, ha.size], fun m hm => by
    rw [bit_zipWith_op f op hf h0 a b hs m, WF_bit_ge ha hm, WF_bit_ge hb hm, h0]⟩

theorem notInplace_spec (n : Nat) (t : Array W) (hs : t.size = tableSize n) :
    WF n (notInplace n t) ∧ ∀ m, m < 2 ^ n → bit (notInplace n t) m = !bit t m :=
  masked_words (by simp [notInplace, hs]) (fun k b => !(t[k]?.getD 0).getLsbD b) (fun k hk b hb => by
    have hk' : k < t.size := by simpa [notInplace] using hk
    simp only [notInplace, Array.getElem_map, Array.getElem?_eq_getElem hk', Option.getD_some]
    rw [BitVec.and_comm, and_numVarsMask_bit n _ hb, not_bit _ hb])

theorem bit_fillZero (t : Array W) (m : Nat) : bit (fillZero t) m = false := by
  unfold bit fillZero
  rw [Array.getElem?_map]
  cases t[m / 64]? <;> exact BitVec.getLsbD_zero

theorem fillZero_WF (n : Nat) (t : Array W) (hs : t.size = tableSize n) : WF n (fillZero t) :=
  (WF_iff_bit n _).mpr ⟨Array.size_map.trans hs, fun m _ => bit_fillZero t m⟩

theorem getBit_eq_bit (t : Array W) (m : Nat) : getBit t m = bit t m := by
  unfold getBit bit
  rw [shr6, and63, ← BitVec.twoPow_eq, BitVec.and_twoPow]
  cases (t[m / 64]?.getD 0).getLsbD (m % 64)
  · rfl
  · rw [if_pos rfl, bv_bne_iff, ne_eq, ← BitVec.toNat_inj, BitVec.toNat_twoPow_of_lt (mod64_lt m)]
    exact Nat.ne_of_gt (Nat.two_pow_pos _)

theorem bit_setBit (t : Array W) (m k : Nat) (hm : m / 64 < t.size) :
    bit (setBit t m) k = (bit t k || decide (k = m)) := by
  unfold setBit bit
  rw [shr6, and63, Array.getElem?_modify]
  by_cases hw : m / 64 = k / 64
  · rw [if_pos hw, Array.getElem?_eq_getElem (hw ▸ hm), Option.map_some, Option.getD_some, Option.getD_some,
      BitVec.getLsbD_or, one_shl_bit, decide_eq_true (mod64_lt k), Bool.true_and, decide_mod64_eq_of_div64_eq hw]
  · rw [if_neg hw, decide_eq_false fun e : k = m => hw (by rw [e]), Bool.or_false]

theorem bit_unsetBit (t : Array W) (m k : Nat) :
    bit (unsetBit t m) k = (bit t k && !decide (k = m)) := by
  unfold unsetBit bit
  rw [shr6, and63, Array.getElem?_modify]
  by_cases hw : m / 64 = k / 64
  · rw [if_pos hw]
    cases t[k / 64]? with
    | none =>
      rw [Option.map_none, Option.getD_none, show (0 : W).getLsbD (k % 64) = false from BitVec.getLsbD_zero,
        Bool.false_and]
    | some w =>
      rw [Option.map_some, Option.getD_some, Option.getD_some, BitVec.getLsbD_and, BitVec.getLsbD_not, one_shl_bit,
        decide_eq_true (mod64_lt k), Bool.true_and, Bool.true_and, decide_mod64_eq_of_div64_eq hw]
  · rw [if_neg hw, decide_eq_false fun e : k = m => hw (by rw [e]), Bool.not_false, Bool.and_true]

theorem setBit_WF (n : Nat) (t : Array W) (h : WF n t) (m : Nat) (hm : m < 2 ^ n) : WF n (setBit t m) :=
  (WF_iff_bit n _).mpr ⟨Array.size_modify.trans h.size, fun k hk => by
    rw [bit_setBit t m k (h.size ▸ div64_lt_tableSize hm), WF_bit_ge h hk,
      decide_eq_false (Nat.ne_of_gt (Nat.lt_of_lt_of_le hm hk)), Bool.or_false]⟩

theorem unsetBit_WF (n : Nat) (t : Array W) (h : WF n t) (m : Nat) : WF n (unsetBit t m) :=
  (WF_iff_bit n _).mpr ⟨Array.size_modify.trans h.size, fun k hk => by
    rw [bit_unsetBit, WF_bit_ge h hk, Bool.false_and]⟩

/-- `set_value(j, !value(j))` in the inner loop of `From<&Lut> for Esop` (esop.rs), written out in
    `Esop.esopToggle` (Model/Sop.lean) -/
def toggle (t : Array W) (m : Nat) : Array W := if !(getBit t m) then setBit t m else unsetBit t m

theorem toggle_size (t : Array W) (m : Nat) : (toggle t m).size = t.size := by
  unfold toggle
  split
  · exact Array.size_modify
  · exact Array.size_modify

theorem bit_toggle (t : Array W) (m k : Nat) (hm : m / 64 < t.size) :
    bit (toggle t m) k = (bit t k != decide (k = m)) := by
  unfold toggle
  rw [getBit_eq_bit]
  by_cases h : k = m
  · subst h
    cases hb : bit t k
    · rw [Bool.not_false, if_pos rfl, bit_setBit _ _ _ hm, decide_eq_true rfl, Bool.or_true]
      rfl
    · rw [Bool.not_true, if_neg Bool.false_ne_true, bit_unsetBit, decide_eq_true rfl, Bool.not_true, Bool.and_false]
      rfl
  · rw [decide_eq_false h, Bool.bne_false]
    split
    · rw [bit_setBit _ _ _ hm, decide_eq_false h, Bool.or_false]
    · rw [bit_unsetBit, decide_eq_false h, Bool.not_false, Bool.and_true]

end VoluteModel
