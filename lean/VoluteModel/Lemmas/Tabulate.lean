import VoluteModel.Model.Sop
import VoluteModel.Lemmas.Guards

/-!
# Tabulating a function into a `Lut` (`From<&Sop> for Lut` and friends)

`bit_foldl_update` is the common core of the two loops of the model that write single bits: `tabulate`
(set the bits where a function is true) and the inner loop of `From<&Lut> for Esop` (toggle the bits
of the supersets of an index, Props/C15).
-/

namespace VoluteModel

/-- A fold of single-position updates `op`, each applied where `c` holds, over a duplicate-free list `L`:
    position `m` ends as `upd (old value) (m ∈ L && c m)` -/
theorem bit_foldl_update (op : Array W → Nat → Array W) (upd : Bool → Bool → Bool) (c : Nat → Bool)
    (hupd : ∀ b, upd b false = b) (hsize : ∀ t j, (op t j).size = t.size)
    (hbit : ∀ t j m, j / 64 < t.size → bit (op t j) m = upd (bit t m) (decide (m = j)))
    (L : List Nat) (hL : L.Nodup) (t : Array W) (hr : ∀ j ∈ L, j / 64 < t.size) :
    (L.foldl (fun t j => if c j then op t j else t) t).size = t.size ∧
      ∀ m, bit (L.foldl (fun t j => if c j then op t j else t) t) m = upd (bit t m) (decide (m ∈ L) && c m) := by
  induction L generalizing t with
  | nil => exact ⟨rfl, fun m => (hupd _).symm⟩
  | cons a L ih =>
    obtain ⟨ha, hL'⟩ := List.nodup_cons.mp hL
    have hra := hr a List.mem_cons_self
    have hs : (if c a then op t a else t).size = t.size := by split; exact hsize t a; rfl
    have hb : ∀ m, bit (if c a then op t a else t) m = upd (bit t m) (decide (m = a) && c a) := by
      intro m
      cases c a
      · rw [Bool.and_false, hupd]; rfl
      · rw [Bool.and_true, if_pos rfl, hbit t a m hra]
    obtain ⟨h1, h2⟩ := ih hL' _ (fun j hj => by rw [hs]; exact hr j (List.mem_cons_of_mem _ hj))
    refine ⟨h1.trans hs, fun m => ?_⟩
    rw [List.foldl_cons, h2 m, hb m]
    by_cases hm : m = a
    · rw [hm, decide_eq_false ha, Bool.false_and, hupd, decide_eq_true rfl, decide_eq_true List.mem_cons_self]
    · rw [decide_eq_false hm, Bool.false_and, hupd,
        show decide (m ∈ a :: L) = decide (m ∈ L) from decide_eq_decide.mpr (List.mem_cons.trans (or_iff_right hm))]

theorem tabulate_n (n : Nat) (f : Nat → Bool) : (tabulate n f).n = n :=
  List.foldlRecOn (motive := fun l : Lut => l.n = n) _ _ rfl fun l h m _ => by split <;> exact h

theorem tabulate_spec (n : Nat) (f : Nat → Bool) :
    (tabulate n f).t.size = tableSize n ∧ ∀ m, bit (tabulate n f).t m = (decide (m < 2 ^ n) && f m) := by
  -- the fold over `Lut`s is a fold of `set_bit` over the table
  have ht : (tabulate n f).t =
      (List.range (2 ^ n)).foldl (fun t m => if f m then setBit t m else t) (Dyn.zero n).t := by
    unfold tabulate
    rw [Nat.one_shiftLeft]
    exact (List.foldl_hom Lut.t (g₂ := fun t m => if f m then setBit t m else t) fun l m => by split <;> rfl).symm
  have hz : (Dyn.zero n).t.size = tableSize n := (Dyn.zero_WF n).1
  obtain ⟨h1, h2⟩ := bit_foldl_update setBit (· || ·) f Bool.or_false (fun t j => Array.size_modify ..)
    (fun t j m hj => bit_setBit t j m hj) (List.range (2 ^ n)) List.nodup_range (Dyn.zero n).t
    (fun j hj => by rw [hz]; exact div64_lt_tableSize (List.mem_range.mp hj))
  rw [← ht] at h1 h2
  refine ⟨h1.trans hz, fun m => ?_⟩
  rw [h2 m, show (Dyn.zero n).t = fillZero (Dyn.new n).t from rfl, bit_fillZero, Bool.false_or]
  exact congrArg (· && f m) (decide_eq_decide.mpr List.mem_range)

theorem tabulate_WF (n : Nat) (f : Nat → Bool) : (tabulate n f).WF := by
  obtain ⟨hs, hb⟩ := tabulate_spec n f
  have hn := tabulate_n n f
  refine (WF_iff_bit _ _).mpr ⟨hn.symm ▸ hs, fun m hm => ?_⟩
  rw [hb, decide_eq_false (Nat.not_lt.mpr (hn ▸ hm)), Bool.false_and]

theorem tabulate_eval (n : Nat) (f : Nat → Bool) (m : Nat) (hm : m < 2 ^ n) : (tabulate n f).eval m = f m := by
  rw [Lut.eval, (tabulate_spec n f).2 m, decide_eq_true hm, Bool.true_and]

end VoluteModel
