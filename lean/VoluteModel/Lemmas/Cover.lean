import VoluteModel.Lemmas.Count
import VoluteModel.Lemmas.SeqFacts

/-!
# Coverage: the walks visit every element of their group

Every permutation, every mask of n+1 bits, every pair of them is the certificate of some step of the
P, N, NPN walk: the permutations / masks before each step are pairwise distinct and there are n! / 2^n
of them (`SwapCover`, `FlipCover`), so the counting lemmas of `Count.lean` apply.
-/

namespace VoluteModel

/-- on a closed walk, what a prefix reaches is reached by a non-empty one -/
theorem closed_prefix {α : Type} (g : Nat → α) {L : Nat} (hL : 0 < L) (hc : g L = g 0) {j : Nat} (hj : j < L) :
    ∃ b, b < L ∧ g (b + 1) = g j := by
  cases j with
  | zero => exact ⟨L - 1, Nat.sub_lt hL Nat.one_pos, by rw [Nat.sub_add_cancel hL, hc]⟩
  | succ j => exact ⟨j, Nat.lt_of_succ_lt hj, rfl⟩

/-! The three cover theorems index differently: `p_cover` has `j < swaps.length` swaps done, the empty prefix
included (the permutations BEFORE each swap are the distinct ones); `n_cover`: `1 ≤ k` macro-steps done;
`npn_cover`: `j ≤` the length, as `orbit_min` wants it. -/

theorem p_cover (n : Nat) (swaps : List Nat) (hs : SwapFacts n swaps)
    (hnd : (prefixPerms (List.range n) swaps).Nodup) (hl : swaps.length = factL n) (σ : Array Nat) (hσ : IsPerm n σ) :
    ∃ j, j < swaps.length ∧ certAt n (macroP swaps) j = (σ, 0) := by
  have hV : ∀ j, (swaps.take j).foldl (fun q s => swapAdjL s q) (List.range n) =
      (certAt n (macroP swaps) j).1.toList := fun j => by
    rw [certAt_macroP, certAfter_swaps, Array.toList_range]
  have hmem := perms_covered n _ hnd (fun v hv => by
    rw [prefixPerms_eq_map, List.mem_map] at hv
    obtain ⟨j, _, rfl⟩ := hv
    rw [hV]
    exact (certAfter_ok (safe_prefix n _ _ j (macroP_closedWalk n swaps hs).safe) ⟨isPerm_range n, Nat.two_pow_pos _⟩).1.2)
    (by rw [prefixPerms_length, hl, factL_eq]) σ.toList hσ.2
  rw [prefixPerms_eq_map, List.mem_map] at hmem
  obtain ⟨j, hj, hjv⟩ := hmem
  exact ⟨j, List.mem_range.mp hj, Prod.ext (Array.ext' ((hV j).symm.trans hjv)) (p_mask_zero n swaps j)⟩

theorem gray_cover (n : Nat) (flips : List Nat) (hfl : FlipFacts n flips) (hc : FlipCover n flips)
    (lo : Nat) (hlo : lo < 2 ^ n) :
    ∃ i, i < flips.length ∧ xorFlips (flips.take (i + 1)) = lo := by
  have hmem := range_covered (2 ^ n) _ hc.nodup (fun v hv => by
    rw [prefixXors_eq_map, List.mem_map] at hv
    obtain ⟨j, _, rfl⟩ := hv
    rw [Nat.zero_xor]
    exact xorFlips_lt n _ (fun f hf => hfl.valid f (List.mem_of_mem_take hf)))
    (by rw [prefixXors_length, hc.length]) lo hlo
  rw [prefixXors_eq_map, List.mem_map] at hmem
  obtain ⟨j, hj, hjv⟩ := hmem
  rw [Nat.zero_xor] at hjv
  obtain ⟨i, hi, e⟩ := closed_prefix (fun i => xorFlips (flips.take i)) (List.length_pos_iff.mpr hfl.ne)
    (by show xorFlips (flips.take flips.length) = _; rw [List.take_length, hfl.closed]; rfl) (List.mem_range.mp hj)
  exact ⟨i, hi, e.trans hjv⟩

theorem n_cover (n : Nat) (flips : List Nat) (hfl : FlipFacts n flips) (hd : (prefixXors 0 flips).Nodup)
    (hl : flips.length = 2 ^ n) (μ : Nat) (hμ : μ < 2 ^ (n + 1)) :
    ∃ k, 1 ≤ k ∧ k ≤ 2 * flips.length ∧ maskN n flips k = μ := by
  by_cases h : μ < 2 ^ n
  · obtain ⟨i, hi, hx⟩ := gray_cover n flips hfl ⟨hd, hl⟩ μ h
    exact ⟨2 * (i + 1), Nat.succ_pos _, Nat.mul_le_mul_left 2 hi, by rw [maskN_even, hx]⟩
  · -- the output is complemented: an odd step, after the first complement of its pair
    obtain ⟨lo, rfl⟩ := Nat.exists_eq_add_of_le (Nat.le_of_not_lt h)
    have hlo : lo < 2 ^ n := by
      rw [Nat.pow_succ, Nat.mul_two] at hμ
      exact Nat.lt_of_add_lt_add_left hμ
    obtain ⟨i, hi, hx⟩ := gray_cover n flips hfl ⟨hd, hl⟩ lo hlo
    exact ⟨2 * i + 1, Nat.succ_pos _, Nat.le_of_succ_le (Nat.mul_le_mul_left 2 hi), by
      rw [maskN_odd, hx, xor_two_pow_of_clear lo n (Nat.testBit_lt_two_pow hlo), Nat.add_comm]⟩

/-- `k + 1` steps into the block of `s` -/
theorem block_cover (n : Nat) (s1 : List Nat) (s : Nat) (s2 flips : List Nat) (hf : flips ≠ [])
    (hc : xorFlips flips = 0) (k : Nat) (hk : k + 1 ≤ 2 * flips.length) :
    ∃ j, j ≤ (macroNPN (s1 ++ s :: s2) flips).length ∧ certAt n (macroNPN (s1 ++ s :: s2) flips) j =
      ((certAfter n (Array.range n, 0) ((s1 ++ [s]).map Elem.swap)).1, maskN n flips (k + 1)) := by
  have hsplit : macroNPN (s1 ++ s :: s2) flips =
      (macroNPN s1 flips ++ (macroBlock s flips).take (k + 1)) ++
        ((macroBlock s flips).drop (k + 1) ++ macroNPN s2 flips) := by
    simp only [macroNPN, List.flatMap_append, List.flatMap_cons, List.append_assoc]
    rw [← List.append_assoc (List.take _ _), List.take_append_drop]
  rw [hsplit]
  refine ⟨_, List.length_append ▸ Nat.le_add_right _ _, ?_⟩
  rw [certAt, List.take_left, List.flatten_append, certAfter_append, certAfter_macroNPN n s1 flips hf hc,
    List.map_append, certAfter_append, macroBlock_take_flatten s flips hf k, certAfter_swaps n s1]
  exact (certAfter_macroN_take n flips _ 0 (k + 1) hk).trans (by rw [Nat.zero_xor]; rfl)

theorem npn_cover (n : Nat) (swaps flips : List Nat)
    (hs : SwapFacts n swaps) (hfl : FlipFacts n flips)
    (hd : (prefixPerms (List.range n) swaps).Nodup) (hl : swaps.length = factL n)
    (hdf : (prefixXors 0 flips).Nodup) (hlf : flips.length = 2 ^ n)
    (σ : Array Nat) (hσ : IsPerm n σ) (μ : Nat) (hμ : μ < 2 ^ (n + 1)) :
    ∃ j, j ≤ (macroNPN swaps flips).length ∧ certAt n (macroNPN swaps flips) j = (σ, μ) := by
  -- σ after `j` swaps (`p_cover`), hence, the swap walk being closed, after `b + 1 ≥ 1` swaps: inside the
  -- block of swap `b`, where step `k + 1 ≥ 1` of the N walk (`n_cover`) lies.
  obtain ⟨j, hj, hcj⟩ := p_cover n swaps hs hd hl σ hσ
  obtain ⟨k, hk1, hk, rfl⟩ := n_cover n flips hfl hdf hlf μ hμ
  obtain ⟨k, rfl⟩ := Nat.exists_eq_add_of_le' hk1
  rw [certAt_macroP] at hcj
  obtain ⟨b, hbl, hbσ⟩ := closed_prefix (fun i => (certAfter n (Array.range n, 0) ((swaps.take i).map Elem.swap)).1)
    (List.length_pos_iff.mpr hs.ne) (by show (certAfter n _ ((swaps.take swaps.length).map _)).1 = _
                                        rw [List.take_length, hs.closed]; rfl) hj
  replace hbσ : (certAfter n (Array.range n, 0) ((swaps.take (b + 1)).map Elem.swap)).1 = σ :=
    hbσ.trans (congrArg Prod.fst hcj)
  rw [List.take_add_one, List.getElem?_eq_getElem hbl] at hbσ
  rw [← List.take_append_drop b swaps, List.drop_eq_getElem_cons hbl, ← hbσ]
  exact block_cover n _ _ _ flips hfl.ne hfl.closed k hk

end VoluteModel
