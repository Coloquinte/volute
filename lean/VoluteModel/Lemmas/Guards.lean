import VoluteModel.Model.Api
import VoluteModel.Lemmas.Pointwise

/-!
# The guards of the API layer

An entry point that can panic is `if check then some result else none`: how to read such a call, what the
two index checks of lut.rs test, and the table every constructor starts from.  Where the branch is itself
an `Option` or the test is inverted (`from_cofactors`, `TryFrom<Lut>`), core's
`Option.ite_none_right_eq_some` / `_left_eq_some` are used as they are.
-/

namespace VoluteModel

theorem guard_none {α : Type} {c : Prop} [Decidable c] {x : α} : (if c then some x else none) = none ↔ ¬ c := by
  split <;> simp [*]

theorem guard_some {α : Type} {c : Prop} [Decidable c] {x y : α} :
    (if c then some x else none) = some y ↔ c ∧ x = y := by
  rw [Option.ite_none_right_eq_some, Option.some.injEq]

theorem Dyn.new_size (n : Nat) : (Dyn.new n).t.size = tableSize n := Array.size_replicate

theorem Dyn.zero_WF (n : Nat) : (Dyn.zero n).WF := fillZero_WF n _ (Dyn.new_size n)

theorem Dyn.numBits_eq (l : Lut) : Dyn.numBits l = 2 ^ l.n := Nat.one_shiftLeft _

theorem Dyn.checkVar_iff (l : Lut) (i : Nat) : Dyn.checkVar l i = true ↔ i < l.n := decide_eq_true_iff

theorem Dyn.checkBit_iff (l : Lut) (m : Nat) : Dyn.checkBit l m = true ↔ m < 2 ^ l.n := by
  rw [Dyn.checkBit, Dyn.numBits_eq, decide_eq_true_iff]

end VoluteModel
