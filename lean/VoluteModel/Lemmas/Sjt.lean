import VoluteModel.Model.CanonGen
import VoluteModel.Lemmas.ListFacts
import VoluteModel.Lemmas.SeqCore

/-!
# The run-time swap generator (`generate_swaps`), for every number of variables

`generate_single_swap_permutations(n)` lists the n! permutations of 0..n-1 in Steinhaus-Johnson-Trotter order:
consecutive ones, and the last and the first, differ by one adjacent transposition.  Proved by induction on n along
the recursion of the generator, one level by recursion on the list of permutations: the field `Walk.step` says
closedness by positions, the proofs work on its chain form (`chain_closed_iff`).  `find_permutation_swap` recovers
each transposition, so `generate_swaps(n, true)` is a closed Hamiltonian walk.  The first section (`Chain`) is
general list theory.
-/

namespace VoluteModel

def Chain {α : Type} (R : α → α → Prop) : List α → Prop
  | a :: b :: l => R a b ∧ Chain R (b :: l)
  | _ => True

section
variable {α : Type} {R : α → α → Prop}

theorem chain_cons_cons {a b : α} {l : List α} : Chain R (a :: b :: l) ↔ R a b ∧ Chain R (b :: l) := Iff.rfl

theorem chain_append {l₁ l₂ : List α} :
    Chain R (l₁ ++ l₂) ↔ Chain R l₁ ∧ Chain R l₂ ∧ ∀ a ∈ l₁.getLast?, ∀ b ∈ l₂.head?, R a b := by
  induction l₁ with
  | nil => exact ⟨fun h => ⟨trivial, h, fun _ h => nomatch h⟩, fun h => h.2.1⟩
  | cons a l ih =>
    cases l with
    | nil =>
      cases l₂ with
      | nil => exact ⟨fun _ => ⟨trivial, trivial, fun _ _ _ h => nomatch h⟩, fun _ => trivial⟩
      | cons b l₂ => exact ⟨fun h => ⟨trivial, h.2, fun _ ha _ hb => by cases ha; cases hb; exact h.1⟩,
          fun h => ⟨h.2.2 a rfl b rfl, h.2.1⟩⟩
    | cons b l =>
      rw [List.cons_append, List.cons_append, chain_cons_cons, chain_cons_cons, ← List.cons_append, ih,
        List.getLast?_cons_cons, and_assoc]

theorem Chain.reverse (hs : ∀ a b, R a b → R b a) {l : List α} (h : Chain R l) : Chain R l.reverse := by
  induction l with
  | nil => exact h
  | cons a l ih =>
    rw [List.reverse_cons, chain_append]
    cases l with
    | nil => exact ⟨trivial, trivial, fun _ h => nomatch h⟩
    | cons b l =>
      refine ⟨ih h.2, trivial, fun c hc d hd => ?_⟩
      rw [List.getLast?_reverse] at hc
      cases hc
      cases hd
      exact hs _ _ h.1

theorem chain_iff_getElem? {l : List α} :
    Chain R l ↔ ∀ k a b, l[k]? = some a → l[k + 1]? = some b → R a b := by
  induction l with
  | nil => exact ⟨fun _ _ _ _ h => (nomatch h), fun _ => trivial⟩
  | cons a l ih =>
    cases l with
    | nil => exact ⟨fun _ _ _ _ _ h => (nomatch h), fun _ => trivial⟩
    | cons b l =>
      rw [chain_cons_cons, ih]
      constructor
      · intro ⟨h0, h⟩ k
        cases k with
        | zero =>
          intro _ _ ha hb
          cases ha
          cases hb
          exact h0
        | succ k => exact h k
      · exact fun h => ⟨h 0 a b rfl rfl, fun k => h (k + 1)⟩

theorem chain_map_range {f : Nat → α} {k : Nat} (h : ∀ j, j + 1 < k → R (f j) (f (j + 1))) :
    Chain R ((List.range k).map f) := by
  rw [chain_iff_getElem?]
  intro j a b ha hb
  simp only [List.getElem?_map, Option.map_eq_some_iff, List.getElem?_eq_some_iff, List.getElem_range] at ha hb
  obtain ⟨_, ⟨_, rfl⟩, rfl⟩ := ha
  obtain ⟨_, ⟨hj, rfl⟩, rfl⟩ := hb
  rw [List.length_range] at hj
  exact h j hj

/-- the positional form of the field `step` of the structure `Walk` below -/
theorem chain_closed_iff {l : List α} :
    (Chain R l ∧ ∀ a ∈ l.getLast?, ∀ b ∈ l.head?, R a b) ↔
      ∀ k a b, l[k]? = some a → l[(k + 1) % l.length]? = some b → R a b := by
  constructor
  · intro ⟨h, hcl⟩ k a b ha hb
    have hk : k < l.length := (List.getElem?_eq_some_iff.mp ha).1
    by_cases h1 : k + 1 < l.length
    · rw [Nat.mod_eq_of_lt h1] at hb
      exact chain_iff_getElem?.mp h k a b ha hb
    · have e : k + 1 = l.length := Nat.le_antisymm hk (Nat.le_of_not_lt h1)
      rw [e, Nat.mod_self, ← List.head?_eq_getElem?] at hb
      refine hcl a ?_ b hb
      rw [List.getLast?_eq_getElem?, ← e]
      exact ha
  · intro h
    refine ⟨chain_iff_getElem?.mpr fun k a b ha hb => h k a b ha ?_, fun a ha b hb => ?_⟩
    · rwa [Nat.mod_eq_of_lt (List.getElem?_eq_some_iff.mp hb).1]
    · rw [List.getLast?_eq_getElem?] at ha
      have hk := (List.getElem?_eq_some_iff.mp ha).1
      refine h _ a b ha ?_
      rw [Nat.sub_add_cancel (Nat.lt_of_le_of_lt (Nat.zero_le _) hk), Nat.mod_self, ← List.head?_eq_getElem?]
      exact hb

end

theorem insertAt_eq (x : Nat) : ∀ (j : Nat) (l : List Nat), insertAt x j l = l.take j ++ x :: l.drop j
  | 0, _ | _ + 1, [] => rfl
  | j + 1, a :: l => congrArg (a :: ·) (insertAt_eq x j l)

theorem insertAt_perm (x : Nat) (j : Nat) (l : List Nat) : (insertAt x j l).Perm (x :: l) := by
  have := List.perm_middle (a := x) (l₁ := l.take j) (l₂ := l.drop j)
  rwa [List.take_append_drop, ← insertAt_eq] at this

theorem insertAt_length (x : Nat) (j : Nat) (l : List Nat) : (insertAt x j l).length = l.length + 1 :=
  (insertAt_perm x j l).length_eq

theorem insertAt_erase (x : Nat) (j : Nat) (l : List Nat) (hx : x ∉ l) : (insertAt x j l).erase x = l := by
  rw [insertAt_eq, List.erase_append_right _ fun h => hx (List.mem_of_mem_take h), List.erase_cons_head,
    List.take_append_drop]

theorem insertAt_idxOf (x : Nat) (j : Nat) (l : List Nat) (hx : x ∉ l) (hj : j ≤ l.length) :
    (insertAt x j l).idxOf x = j := by
  rw [insertAt_eq, List.idxOf_append, if_neg fun h => hx (List.mem_of_mem_take h), List.idxOf_cons_self,
    List.length_take_of_le hj, Nat.zero_add]

theorem swap_insert_up (x : Nat) : ∀ (j : Nat) (l : List Nat), j < l.length →
    swapAdjL j (insertAt x j l) = insertAt x (j + 1) l
  | 0, _ :: _, _ => rfl
  | j + 1, a :: r, h => congrArg (a :: ·) (swap_insert_up x j r (Nat.lt_of_succ_lt_succ h))

/-- `Q` is `P` with two adjacent entries, at positions below `m`, exchanged: the relation of `Walk.step` -/
def AdjStep (m : Nat) (P Q : List Nat) : Prop := ∃ s, s + 1 < m ∧ Q = swapAdjL s P

theorem insertionsUp_head? (x : Nat) (cur : List Nat) : (insertionsUp x cur).head? = some (x :: cur) := by
  rw [insertionsUp, List.head?_map, List.head?_range, if_neg (Nat.succ_ne_zero _)]
  rfl

theorem insertionsUp_getLast? (x : Nat) (cur : List Nat) : (insertionsUp x cur).getLast? = some (cur ++ [x]) := by
  rw [insertionsUp, List.getLast?_map, List.getLast?_range, if_neg (Nat.succ_ne_zero _), Option.map_some,
    Nat.add_sub_cancel, insertAt_eq, List.take_length, List.drop_length]

/-- what one permutation contributes to `sjtLevel`: its insertions, upwards for even `i`, downwards for odd -/
def block (x : Nat) (cur : List Nat) (i : Nat) : List (List Nat) :=
  if i % 2 = 0 then insertionsUp x cur else (insertionsUp x cur).reverse

theorem sjtLevel_cons (x : Nat) (cur : List Nat) (rest : List (List Nat)) (i : Nat) :
    sjtLevel x (cur :: rest) i = block x cur i ++ sjtLevel x rest (i + 1) := rfl

theorem block_length (x : Nat) (cur : List Nat) (i : Nat) : (block x cur i).length = cur.length + 1 := by
  unfold block
  split
  · rw [insertionsUp, List.length_map, List.length_range]
  · rw [List.length_reverse, insertionsUp, List.length_map, List.length_range]

theorem block_chain (x : Nat) (cur : List Nat) (i : Nat) : Chain (AdjStep (cur.length + 1)) (block x cur i) := by
  have up : Chain (AdjStep (cur.length + 1)) (insertionsUp x cur) :=
    chain_map_range fun j hj => ⟨j, hj, (swap_insert_up x j cur (Nat.lt_of_succ_lt_succ hj)).symm⟩
  unfold block
  split
  · exact up
  · exact up.reverse fun P _ ⟨s, hs, e⟩ => ⟨s, hs, by rw [e, swapAdjL_invol]⟩

/-- the entry with which block `i` begins and block `i - 1` ends -/
def atEnd (x i : Nat) (P : List Nat) : List Nat := if i % 2 = 0 then x :: P else P ++ [x]

theorem block_head? (x : Nat) (cur : List Nat) (i : Nat) : (block x cur i).head? = some (atEnd x i cur) := by
  unfold block atEnd
  split
  · exact insertionsUp_head? x cur
  · rw [List.head?_reverse]
    exact insertionsUp_getLast? x cur

theorem block_getLast? (x : Nat) (cur : List Nat) (i : Nat) : (block x cur i).getLast? = some (atEnd x (i + 1) cur) := by
  unfold block atEnd
  rcases Nat.mod_two_eq_zero_or_one i with h | h
  · rw [Nat.add_mod, h, if_pos rfl, if_neg (by decide)]
    exact insertionsUp_getLast? x cur
  · rw [Nat.add_mod, h, if_neg (by decide), if_pos (by decide), List.getLast?_reverse]
    exact insertionsUp_head? x cur

theorem AdjStep.atEnd (x i : Nat) {m : Nat} {P Q : List Nat} (h : AdjStep m P Q) (hP : P.length = m) :
    AdjStep (m + 1) (atEnd x i P) (atEnd x i Q) := by
  obtain ⟨s, hs, rfl⟩ := h
  unfold VoluteModel.atEnd
  split
  · exact ⟨s + 1, Nat.succ_lt_succ hs, rfl⟩
  · exact ⟨s, Nat.lt_succ_of_lt hs, (swapAdjL_append x s P (hP ▸ hs)).symm⟩

theorem sjtLevel_length (x m : Nat) (Ps : List (List Nat)) (hm : ∀ P ∈ Ps, P.length = m) (i : Nat) :
    (sjtLevel x Ps i).length = Ps.length * (m + 1) := by
  induction Ps generalizing i with
  | nil => rw [List.length_nil, Nat.zero_mul]; rfl
  | cons cur rest ih =>
    rw [sjtLevel_cons, List.length_append, block_length, ih (fun P hP => hm P (List.mem_cons_of_mem _ hP)),
      hm cur List.mem_cons_self, List.length_cons, Nat.succ_mul, Nat.add_comm]

/-- members and distinctness of a level need no parity -/
theorem sjtLevel_perm (x : Nat) (Ps : List (List Nat)) (i : Nat) : (sjtLevel x Ps i).Perm (Ps.flatMap (insertionsUp x)) := by
  induction Ps generalizing i with
  | nil => exact List.Perm.refl _
  | cons cur rest ih =>
    rw [sjtLevel, List.flatMap_cons]
    refine List.Perm.append ?_ (ih _)
    split
    · exact List.Perm.refl _
    · exact List.reverse_perm _

theorem mem_sjtLevel {x : Nat} {Ps : List (List Nat)} {i : Nat} {Q : List Nat} :
    Q ∈ sjtLevel x Ps i ↔ ∃ P ∈ Ps, ∃ j, j ≤ P.length ∧ Q = insertAt x j P := by
  simp only [(sjtLevel_perm x Ps i).mem_iff, List.mem_flatMap, insertionsUp, List.mem_map, List.mem_range,
    Nat.lt_succ_iff, eq_comm]

theorem sjtLevel_nodup {x : Nat} {Ps : List (List Nat)} (hnd : Ps.Nodup) (hx : ∀ P ∈ Ps, x ∉ P) (i : Nat) :
    (sjtLevel x Ps i).Nodup := by
  rw [(sjtLevel_perm x Ps i).nodup_iff]
  refine nodup_flatMap_map hnd (fun _ _ => List.nodup_range) fun P hP j hj P' hP' j' hj' e => ?_
  -- deleting `x` recovers the permutation below, the position of `x` the place of insertion
  have he := congrArg (List.erase · x) e
  have hi := congrArg (List.idxOf x) e
  rw [insertAt_erase x j P (hx P hP), insertAt_erase x j' P' (hx P' hP')] at he
  rw [insertAt_idxOf x j P (hx P hP) (Nat.le_of_lt_succ (List.mem_range.mp hj)),
    insertAt_idxOf x j' P' (hx P' hP') (Nat.le_of_lt_succ (List.mem_range.mp hj'))] at hi
  exact ⟨he, hi⟩

theorem sjtLevel_head? (x : Nat) (Ps : List (List Nat)) (i : Nat) :
    (sjtLevel x Ps i).head? = Ps.head?.map (atEnd x i) := by
  cases Ps with
  | nil => rfl
  | cons cur rest =>
    rw [sjtLevel_cons, List.head?_append, block_head?]
    rfl

theorem sjtLevel_getLast? (x : Nat) (Ps : List (List Nat)) (i : Nat) :
    (sjtLevel x Ps i).getLast? = Ps.getLast?.map (atEnd x (i + Ps.length)) := by
  induction Ps generalizing i with
  | nil => rfl
  | cons cur rest ih =>
    rw [sjtLevel_cons, List.getLast?_append, block_getLast?, ih, List.length_cons, Nat.add_assoc, Nat.add_comm 1]
    cases rest with
    | nil => rfl
    | cons nxt rest =>
      rw [List.getLast?_cons_cons, List.getLast?_cons]
      rfl

/-- every block is a chain, and a block ends with `x` at the end at which the next block begins -/
theorem sjtLevel_chain (x m : Nat) (Ps : List (List Nat)) (hm : ∀ P ∈ Ps, P.length = m) (hc : Chain (AdjStep m) Ps)
    (i : Nat) : Chain (AdjStep (m + 1)) (sjtLevel x Ps i) := by
  induction Ps generalizing i with
  | nil => trivial
  | cons cur rest ih =>
    have hcur := hm cur List.mem_cons_self
    rw [sjtLevel_cons, chain_append, block_getLast?, sjtLevel_head?]
    cases rest with
    | nil => exact ⟨hcur ▸ block_chain x cur i, trivial, fun _ _ _ h => nomatch h⟩
    | cons nxt rest =>
      refine ⟨hcur ▸ block_chain x cur i, ih (fun P hP => hm P (List.mem_cons_of_mem _ hP)) hc.2 _, ?_⟩
      intro a ha b hb
      rw [← Option.some.inj ha, ← Option.some.inj hb]
      exact hc.1.atEnd x (i + 1) hcur

/-- a list of permutations of 0..n-1 that is a closed walk by adjacent transpositions through n! distinct
    permutations; `even` is what `walk_succ` needs to close the next level -/
structure Walk (n : Nat) (Ps : List (List Nat)) : Prop where
  len : Ps.length = factL n
  even : Ps.length % 2 = 0
  perm : ∀ P ∈ Ps, P.Perm (List.range n)
  nodup : Ps.Nodup
  step : ∀ k P Q, Ps[k]? = some P → Ps[(k + 1) % Ps.length]? = some Q → ∃ s, s + 1 < n ∧ Q = swapAdjL s P

theorem perm_length {n : Nat} {P : List Nat} (h : P.Perm (List.range n)) : P.length = n := by
  rw [h.length_eq, List.length_range]

/-- one level of the generator keeps the walk property -/
theorem walk_succ (n : Nat) (h2 : 2 ≤ n) (Ps : List (List Nat)) (w : Walk n Ps) : Walk (n + 1) (sjtLevel n Ps 0) := by
  have hlenP : ∀ P ∈ Ps, P.length = n := fun P hP => perm_length (w.perm P hP)
  have hL : (sjtLevel n Ps 0).length = Ps.length * (n + 1) := sjtLevel_length n n Ps hlenP 0
  obtain ⟨hc, hcl⟩ := chain_closed_iff.mpr w.step
  refine ⟨?_, ?_, ?_, ?_, chain_closed_iff.mp ⟨sjtLevel_chain n n Ps hlenP hc 0, ?_⟩⟩
  · rw [hL, w.len]
    exact Nat.mul_comm _ _
  · rw [hL, Nat.mul_mod, w.even, Nat.zero_mul, Nat.zero_mod]
  · intro Q hQ
    obtain ⟨P, hP, j, _, rfl⟩ := mem_sjtLevel.mp hQ
    rw [List.range_succ]
    exact (insertAt_perm n j P).trans (((w.perm P hP).cons n).trans (List.perm_append_singleton n _).symm)
  · refine sjtLevel_nodup w.nodup (fun P hP hn => ?_) 0
    exact Nat.lt_irrefl n (List.mem_range.mp ((w.perm P hP).mem_iff.mp hn))
  · -- the level begins and ends with `n` in front, because the number of blocks is even
    rw [sjtLevel_getLast?, sjtLevel_head?, Nat.zero_add]
    intro P' hP' Q' hQ'
    obtain ⟨P, hP, rfl⟩ := Option.map_eq_some_iff.mp hP'
    obtain ⟨Q, hQ, rfl⟩ := Option.map_eq_some_iff.mp hQ'
    unfold atEnd
    rw [if_pos w.even, if_pos (Nat.zero_mod 2)]
    obtain ⟨s, hs, rfl⟩ := hcl P hP Q hQ
    exact ⟨s + 1, Nat.succ_lt_succ hs, rfl⟩

theorem walk_two : Walk 2 [[1, 0], [0, 1]] := by
  refine ⟨rfl, rfl, by decide, by decide, chain_closed_iff.mp ⟨⟨⟨0, by decide, rfl⟩, trivial⟩, ?_⟩⟩
  intro P hP Q hQ
  cases hP
  cases hQ
  exact ⟨0, by decide, rfl⟩

theorem gen_walk : ∀ n, 2 ≤ n → Walk n (generateSingleSwapPermutations n)
  | 2, _ => walk_two
  | n + 3, _ => walk_succ (n + 2) (Nat.le_add_left 2 n) _ (gen_walk (n + 2) (Nat.le_add_left 2 n))

theorem firstDiff_cons_same (c : Nat) (as bs : List Nat) (i : Nat) :
    firstDiff (c :: as) (c :: bs) i = firstDiff as bs (i + 1) := by
  cases as with
  | nil => rfl
  | cons a as =>
    cases bs with
    | nil => rfl
    | cons b bs => rw [firstDiff, bne_self_eq_false, if_neg Bool.false_ne_true]

theorem firstDiff_swapAdjL : ∀ (s : Nat) (p : List Nat) (i : Nat), p.Nodup → s + 1 < p.length →
    firstDiff p (swapAdjL s p) i = some (i + s)
  | 0, a :: b :: r, i, hnd, _ => by
    have hab : a ≠ b := fun e => (List.nodup_cons.mp hnd).1 (e ▸ List.mem_cons_self)
    show (if a != b then some i else _) = some (i + 0)
    exact if_pos (bne_iff_ne.mpr hab)
  | s + 1, c :: r, i, hnd, h => by
    rw [swapAdjL, firstDiff_cons_same,
      firstDiff_swapAdjL s r (i + 1) (List.nodup_cons.mp hnd).2 (Nat.lt_of_succ_lt_succ h), Nat.add_right_comm]
    rfl

theorem checkPermutationSwap_swapAdjL (p : List Nat) (s : Nat) (hs : s + 1 < p.length) :
    checkPermutationSwap p (swapAdjL s p) s = true := by
  unfold checkPermutationSwap
  simp only [swapAdjL_length, beq_self_eq_true, Bool.true_and, Bool.and_eq_true, List.all_eq_true,
    decide_eq_true_eq, Bool.or_eq_true, beq_iff_eq]
  refine ⟨⟨⟨fun i _ => ?_, hs⟩, ?_⟩, ?_⟩
  · by_cases h : i = s ∨ i = s + 1
    · exact Or.inl h
    · rw [swapAdjL_getElem? s p hs i, if_neg fun e => h (Or.inr e.symm), if_neg fun e => h (Or.inl e.symm)]
      exact Or.inr rfl
  · rw [swapAdjL_getElem? s p hs (s + 1), if_pos rfl]
  · rw [swapAdjL_getElem? s p hs s, if_neg (Nat.succ_ne_self s), if_pos rfl]

theorem findSwap_spec (p : List Nat) (hnd : p.Nodup) (s : Nat) (hs : s + 1 < p.length) :
    findPermutationSwap p (swapAdjL s p) = some s := by
  rw [findPermutationSwap, swapAdjL_length, bne_self_eq_false, if_neg Bool.false_ne_true,
    firstDiff_swapAdjL s p 0 hnd hs, Nat.zero_add]
  simp only [checkPermutationSwap_swapAdjL p s hs, if_true]

theorem consec_spec (n : Nat) (P0 : List Nat) (rest : List (List Nat))
    (hnd : ∀ P ∈ P0 :: rest, P.Nodup ∧ P.length = n) (hc : Chain (AdjStep n) (P0 :: rest)) :
    ∃ sw, consecutiveSwaps (P0 :: rest) = some sw ∧ (∀ s ∈ sw, s + 1 < n) ∧
      prefixPerms P0 sw ++ [sw.foldl (fun q s => swapAdjL s q) P0] = P0 :: rest := by
  induction rest generalizing P0 with
  | nil => exact ⟨[], rfl, fun _ h => (nomatch h), rfl⟩
  | cons q rest ih =>
    obtain ⟨s, hs, rfl⟩ := hc.1
    obtain ⟨ss, hss, hv, hpre⟩ := ih _ (fun P hP => hnd P (List.mem_cons_of_mem _ hP)) hc.2
    have hp := hnd P0 List.mem_cons_self
    have hf : findPermutationSwap P0 (swapAdjL s P0) = some s := findSwap_spec P0 hp.1 s (hp.2 ▸ hs)
    refine ⟨s :: ss, by rw [consecutiveSwaps, hf, hss], List.forall_mem_cons.mpr ⟨hs, hv⟩, ?_⟩
    rw [prefixPerms, List.foldl_cons, List.cons_append, hpre]

/-- the returned positions are valid and lead from the first generated permutation through all of them, in
    order, and back -/
theorem generateSwaps_walk (n : Nat) (h2 : 2 ≤ n) :
    ∃ P0 sw, P0 ∈ generateSingleSwapPermutations n ∧ generateSwaps n true = some sw ∧ (∀ s ∈ sw, s + 1 < n) ∧
      prefixPerms P0 sw = generateSingleSwapPermutations n ∧ sw.foldl (fun q s => swapAdjL s q) P0 = P0 := by
  have w := gen_walk n h2
  obtain ⟨P0, rest, hPs⟩ := List.exists_cons_of_length_pos (w.len ▸ factL_pos n)
  rw [hPs] at w ⊢
  have hnd : ∀ P ∈ P0 :: rest, P.Nodup ∧ P.length = n := fun P hP =>
    ⟨(w.perm P hP).nodup_iff.mpr List.nodup_range, perm_length (w.perm P hP)⟩
  obtain ⟨hc, hcl⟩ := chain_closed_iff.mpr w.step
  obtain ⟨sw, hsw, hv, hpre⟩ := consec_spec n P0 rest hnd hc
  have hL : (P0 :: rest).getLast? = some (sw.foldl (fun q s => swapAdjL s q) P0) := by
    rw [← hpre, List.getLast?_concat]
  obtain ⟨sl, hsl, he⟩ := hcl _ hL P0 rfl
  have hLm := hnd _ (List.mem_of_getLast? hL)
  have hfl := findSwap_spec _ hLm.1 sl (hLm.2 ▸ hsl)
  rw [← he] at hfl
  -- there are at least two permutations, so the generator does look for the closing swap
  have hsw1 : sw.isEmpty = false := by
    cases sw with
    | nil => cases rest with
      | nil => exact absurd w.even Nat.one_ne_zero
      | cons _ _ => cases hpre
    | cons _ _ => rfl
  refine ⟨P0, sw ++ [sl], List.mem_cons_self, ?_, ?_, ?_, ?_⟩
  · rw [generateSwaps, hPs]
    simp only [hsw, hsw1, Bool.not_false, Bool.and_self, if_true, hL, List.head?_cons, hfl]
  · intro s hs
    rcases List.mem_append.mp hs with h | h
    · exact hv s h
    · rw [List.mem_singleton.mp h]
      exact hsl
  · rw [prefixPerms_snoc, hpre]
  · rw [List.foldl_append]
    exact he.symm

/-- **the run-time swap generator, for every n >= 2**: `generateSwaps_walk` relabelled to start at the identity
    arrangement (the generator starts at the reversed one) -/
theorem generateSwaps_facts (n : Nat) (h2 : 2 ≤ n) :
    ∃ sw, generateSwaps n true = some sw ∧ (∀ s ∈ sw, s + 1 < n) ∧ sw ≠ [] ∧
      sw.foldl (fun q s => swapAdjL s q) (List.range n) = List.range n ∧
      (prefixPerms (List.range n) sw).Nodup ∧ sw.length = factL n := by
  obtain ⟨P0, sw, hP0, hsw, hv, hpre, hcl⟩ := generateSwaps_walk n h2
  have w := gen_walk n h2
  have hp := w.perm P0 hP0
  have hlen : sw.length = factL n := by rw [← prefixPerms_length P0, hpre, w.len]
  refine ⟨sw, hsw, hv, List.ne_nil_of_length_pos (hlen ▸ factL_pos n), ?_, ?_, hlen⟩
  -- closedness and distinctness do not depend on the labels: relabel `P0` to the identity, entries by their
  -- indices one way, indices by their entries the other
  · rw [← perm_length hp, ← map_idxOf_self P0 (hp.nodup_iff.mpr List.nodup_range), foldl_swapAdjL_map, hcl]
  · refine nodup_of_nodup_map (f := List.map fun j => P0[j]?.getD 0) ?_
    rw [← perm_length hp, ← prefixPerms_map, map_getD_range, hpre]
    exact w.nodup

end VoluteModel
