import VoluteModel.Model.Decomp
import VoluteModel.Lemmas.Bits

/-!
# In-word kernels (variable index <= 5): bit-level meaning

With `s = 2^i`, `m1 = VAR_MASK[i]`, `m0 = !m1`, the kernels are built from five masked-shift terms:

    A = (t & m1) >> s    B = (t & m0) << s    C = t & m1    D = t & m0    E = ((t & m1) >> s) << s

flip, the cofactors, `from_cofactors`, the halves of the mixed swap and the two helpers of
decomposition.rs are each a sum (or an or) of two of them; the one-word swap is a sum of three terms of
the same kind with the masks of `SWAP_INPUT_MASKS` (`deltaSwap_getLsbD`).  A shift by `2^i` reads position
`k + 2^i` or `k - 2^i`, which is `k ^^^ 2^i` exactly where the mask lets the bit through; the summands are
disjoint, so `+` is `|||`.
-/

namespace VoluteModel

section terms
variable (i : Nat) (hi : i < 6) (t : W) (k : Nat) (hk : k < 64)
include hi hk

theorem termA : ((t &&& varMask i) >>> (2^i)).getLsbD k = (!k.testBit i && t.getLsbD (k ^^^ 2^i)) := by
  rw [BitVec.getLsbD_ushiftRight, BitVec.getLsbD_and, varMask_getLsbD i hi, Nat.testBit_two_pow_add_eq]
  cases hb : k.testBit i
  · rw [Nat.add_comm, ← xor_two_pow_of_clear k i hb]
    simp [xor_lt_two_pow_of_lt (n := 6) hk hi]
  · simp only [Bool.not_true, Bool.and_false, Bool.false_and]

theorem termB : ((t &&& ~~~ varMask i) <<< (2^i)).getLsbD k = (k.testBit i && t.getLsbD (k ^^^ 2^i)) := by
  have hk' : k - 2 ^ i < 64 := Nat.lt_of_le_of_lt (Nat.sub_le _ _) hk
  rw [BitVec.getLsbD_shiftLeft, BitVec.getLsbD_and, BitVec.getLsbD_not, varMask_getLsbD i hi]
  cases hb : k.testBit i
  · by_cases hlt : k < 2 ^ i
    · simp [hlt]
    · simp [testBit_sub_two_pow (Nat.le_of_not_lt hlt), hb, hk']
  · obtain ⟨e, hle⟩ := xor_two_pow_of_set k i hb
    simp [testBit_sub_two_pow hle, hb, hk', hk, Nat.not_lt.mpr hle, e]

theorem termC : (t &&& varMask i).getLsbD k = (k.testBit i && t.getLsbD k) := by
  rw [BitVec.getLsbD_and, varMask_getLsbD i hi, Bool.and_comm]
  simp [hk]

theorem termD : (t &&& ~~~ varMask i).getLsbD k = (!k.testBit i && t.getLsbD k) := by
  rw [BitVec.getLsbD_and, BitVec.getLsbD_not, varMask_getLsbD i hi, Bool.and_comm]
  simp [hk]

/-- position `k` of E reads position `k - 2^i` of A, whose bit `i` is the complement of that of `k`, and
    `(k - 2^i) ^^^ 2^i = k` -/
theorem termE : (((t &&& varMask i) >>> (2^i)) <<< (2^i)).getLsbD k = (k.testBit i && t.getLsbD k) := by
  rw [BitVec.getLsbD_shiftLeft]
  by_cases hlt : k < 2 ^ i
  · simp [hlt, Nat.testBit_lt_two_pow hlt]
  · have hle := Nat.le_of_not_lt hlt
    have hk' : k - 2 ^ i < 64 := Nat.lt_of_le_of_lt (Nat.sub_le _ _) hk
    rw [termA i hi t _ hk', testBit_sub_two_pow hle]
    cases hb : k.testBit i
    · simp
    · simp [← (xor_two_pow_of_set k i hb).1, Nat.xor_assoc, hk, hlt]

end terms

theorem disjoint_of_guard {x y : W} (c : Nat → Bool) {p q : Nat → Bool}
    (hx : ∀ k, k < 64 → x.getLsbD k = (!c k && p k)) (hy : ∀ k, k < 64 → y.getLsbD k = (c k && q k)) :
    x &&& y = 0#64 := by
  apply BitVec.eq_of_getLsbD_eq
  intro k hk
  rw [BitVec.getLsbD_and, hx k hk, hy k hk]
  cases c k <;> simp

theorem getLsbD_add_of_guard {x y : W} (c : Nat → Bool) {p q : Nat → Bool}
    (hx : ∀ k, k < 64 → x.getLsbD k = (!c k && p k)) (hy : ∀ k, k < 64 → y.getLsbD k = (c k && q k))
    (k : Nat) (hk : k < 64) : (x + y).getLsbD k = if c k then q k else p k := by
  rw [BitVec.add_eq_or_of_and_eq_zero _ _ (disjoint_of_guard c hx hy), BitVec.getLsbD_or, hx k hk, hy k hk]
  cases c k <;> simp

theorem toNat_add_of_guard {x y : W} (c : Nat → Bool) {p q : Nat → Bool}
    (hx : ∀ k, k < 64 → x.getLsbD k = (!c k && p k)) (hy : ∀ k, k < 64 → y.getLsbD k = (c k && q k)) :
    (x + y).toNat = x.toNat + y.toNat :=
  BitVec.toNat_add_of_and_eq_zero (disjoint_of_guard c hx hy)

theorem flipWord_bit (i : Nat) (hi : i < 6) (t : W) (k : Nat) (hk : k < 64) :
    (flipWord i t).getLsbD k = t.getLsbD (k ^^^ 2^i) := by
  unfold flipWord
  simp only [Nat.one_shiftLeft]
  rw [getLsbD_add_of_guard (fun k => k.testBit i) (termA i hi t) (termB i hi t) k hk]
  exact ite_self _

theorem cof0Word_bit (i : Nat) (hi : i < 6) (t : W) (k : Nat) (hk : k < 64) :
    (cof0Word i t).getLsbD k = t.getLsbD (condFlip id i k) := by
  unfold cof0Word
  simp only [Nat.one_shiftLeft]
  rw [getLsbD_add_of_guard (fun k => k.testBit i) (termD i hi t) (termB i hi t) k hk]
  exact (apply_ite t.getLsbD _ _ _).symm

theorem cof1Word_bit (i : Nat) (hi : i < 6) (t : W) (k : Nat) (hk : k < 64) :
    (cof1Word i t).getLsbD k = t.getLsbD (condFlip not i k) := by
  unfold cof1Word
  simp only [Nat.one_shiftLeft]
  rw [getLsbD_add_of_guard (fun k => k.testBit i) (termA i hi t) (termC i hi t) k hk, condFlip_not]
  exact (apply_ite t.getLsbD _ _ _).symm

/-- the word formula of `from_cofactors_inplace` -/
theorem fromCofWord_bit (i : Nat) (hi : i < 6) (t0 t1 : W) (k : Nat) (hk : k < 64) :
    ((t1 &&& varMask i) + (t0 &&& ~~~ varMask i)).getLsbD k = (if k.testBit i then t1.getLsbD k else t0.getLsbD k) := by
  rw [BitVec.add_comm]
  exact getLsbD_add_of_guard (fun k => k.testBit i) (termD i hi t0) (termC i hi t1) k hk

theorem helperC1_bit (i : Nat) (hi : i < 6) (t : W) (k : Nat) (hk : k < 64) :
    (helperC1 i t).getLsbD k = t.getLsbD (condFlip not i k) := by
  unfold helperC1
  simp only [Nat.one_shiftLeft]
  rw [BitVec.getLsbD_or, termA i hi t k hk, termC i hi t k hk, condFlip_not]
  cases k.testBit i <;> simp

theorem helperC0_bit (i : Nat) (hi : i < 6) (t : W) (k : Nat) (hk : k < 64) :
    (helperC0 i t).getLsbD k = t.getLsbD (condFlip id i k) := by
  unfold helperC0
  simp only [Nat.one_shiftLeft]
  rw [BitVec.getLsbD_or, termB i hi t k hk, termD i hi t k hk, condFlip_id]
  cases k.testBit i <;> simp

theorem swapMixedPair_bit (j : Nat) (hj : j < 6) (t0 t1 : W) (k : Nat) (hk : k < 64) :
    (swapMixedPair j t0 t1).1.getLsbD k = (if k.testBit j then t1.getLsbD (k ^^^ 2^j) else t0.getLsbD k) ∧
    (swapMixedPair j t0 t1).2.getLsbD k = (if k.testBit j then t1.getLsbD k else t0.getLsbD (k ^^^ 2^j)) := by
  unfold swapMixedPair
  simp only [Nat.one_shiftLeft]
  exact ⟨getLsbD_add_of_guard (fun k => k.testBit j) (termD j hj t0) (termB j hj t1) k hk,
    getLsbD_add_of_guard (fun k => k.testBit j) (termA j hj t0) (termE j hj t1) k hk⟩

/-- Delta swap: the bits selected by `ml` change places with those `s` positions higher. -/
theorem deltaSwap_getLsbD (t ml : W) (s : Nat)
    (hfit : ∀ k, ml.getLsbD k = true → s + k < 64)
    (hdisj : ∀ k, ml.getLsbD k = true → (ml <<< s).getLsbD k = false) (k : Nat) (hk : k < 64) :
    ((t &&& ~~~ml &&& ~~~(ml <<< s)) + ((t &&& ml) <<< s) + ((t &&& (ml <<< s)) >>> s)).getLsbD k =
      if ml.getLsbD k then t.getLsbD (s + k)
      else if (ml <<< s).getLsbD k then t.getLsbD (k - s) else t.getLsbD k := by
  generalize hmr : ml <<< s = mr at *
  have b1 : ∀ q, q < 64 → (t &&& ~~~ml &&& ~~~mr).getLsbD q = (!mr.getLsbD q && (t.getLsbD q && !ml.getLsbD q)) := by
    intro q hq
    rw [BitVec.getLsbD_and, BitVec.getLsbD_and, not_bit _ hq, not_bit _ hq, Bool.and_comm]
  have b2 : ∀ q, q < 64 → ((t &&& ml) <<< s).getLsbD q = (mr.getLsbD q && t.getLsbD (q - s)) := by
    intro q _
    rw [← hmr, BitVec.getLsbD_shiftLeft, BitVec.getLsbD_shiftLeft, BitVec.getLsbD_and, Bool.and_comm (t.getLsbD _),
      Bool.and_assoc, Bool.and_assoc, Bool.and_assoc]
  have b3 : ∀ q, q < 64 → ((t &&& mr) >>> s).getLsbD q = (ml.getLsbD q && t.getLsbD (s + q)) := by
    intro q _
    rw [BitVec.getLsbD_ushiftRight, BitVec.getLsbD_and, ← hmr, BitVec.getLsbD_shiftLeft, Nat.add_sub_cancel_left]
    cases h : ml.getLsbD q
    · simp
    · simp [hfit q h]
  -- the first two summands are separated by `mr`, their sum and the third by `ml`
  have b12 : ∀ q, q < 64 → ((t &&& ~~~ml &&& ~~~mr) + ((t &&& ml) <<< s)).getLsbD q =
      (!ml.getLsbD q && if mr.getLsbD q then t.getLsbD (q - s) else t.getLsbD q) := by
    intro q hq
    rw [getLsbD_add_of_guard (fun q => mr.getLsbD q) b1 b2 q hq]
    cases h : ml.getLsbD q
    · simp
    · simp [hdisj q h]
  exact getLsbD_add_of_guard (fun q => ml.getLsbD q) b12 b3 k hk

theorem swapMask_getLsbD {i j : Nat} (hi : i < 6) (hji : j < i) (k : Nat) :
    (swapMask i j).getLsbD k = (decide (k < 64) && (k.testBit j && !k.testBit i)) := by
  rw [swapMask_eq ⟨i, hi⟩ ⟨j, Nat.lt_trans hji hi⟩ hji, BitVec.getLsbD_and, BitVec.getLsbD_not,
    varMask_getLsbD i hi, varMask_getLsbD j (Nat.lt_trans hji hi)]
  cases decide (k < 64) <;> simp

theorem swapMask_shl_getLsbD {i j : Nat} (hi : i < 6) (hji : j < i) (q : Nat) (hq : q < 64) :
    (swapMask i j <<< (2 ^ i - 2 ^ j)).getLsbD q = (q.testBit i && !q.testBit j) := by
  have hne : j ≠ i := Nat.ne_of_lt hji
  have hq' : q - (2 ^ i - 2 ^ j) < 64 := Nat.lt_of_le_of_lt (Nat.sub_le _ _) hq
  rw [BitVec.getLsbD_shiftLeft, swapMask_getLsbD hi hji, decide_eq_true hq, decide_eq_true hq', Bool.true_and,
    Bool.true_and, Bool.eq_iff_iff]
  simp only [Bool.and_eq_true, Bool.not_eq_true', decide_eq_false_iff_not, Nat.not_lt]
  -- `exch` takes a position with x_j set, x_i clear to the one `2^i - 2^j` above it, where x_i is set, x_j clear
  constructor
  · rintro ⟨hle, hj, hi⟩
    have e := exch_of_clear_set hji hi hj
    rw [Nat.sub_add_cancel hle] at e
    rw [← e, exch_testBit, exch_testBit]
    simp [hi, hj, hne]
  · rintro ⟨hi, hj⟩
    obtain ⟨e, hle⟩ := exch_of_set_clear hji hi hj
    rw [← e, exch_testBit, exch_testBit]
    simp [hi, hj, hle, hne]

theorem swapWord_bit (i j : Nat) (hi : i < 6) (hji : j < i) (t : W) (k : Nat) (hk' : k < 64) :
    (swapWord i j t).getLsbD k = t.getLsbD (exch i j k) := by
  have hL : ∀ q, (swapMask i j).getLsbD q = true → q < 64 ∧ q.testBit j = true ∧ q.testBit i = false := by
    intro q h
    simpa only [swapMask_getLsbD hi hji, Bool.and_eq_true, decide_eq_true_eq, Bool.not_eq_true'] using h
  unfold swapWord
  simp only [Nat.one_shiftLeft]
  rw [deltaSwap_getLsbD _ _ _ _ _ k hk', swapMask_getLsbD hi hji, swapMask_shl_getLsbD hi hji k hk']
  · -- the three branches of the delta swap are the three cases of `exch`
    cases hbi : k.testBit i <;> cases hbj : k.testBit j
    · simp [exch_of_eq (hbi.trans hbj.symm)]
    · simp [exch_of_clear_set hji hbi hbj, hk', Nat.add_comm]
    · simp [(exch_of_set_clear hji hbi hbj).1]
    · simp [exch_of_eq (hbi.trans hbj.symm)]
  · -- `hfit`: a position the left mask selects has its partner inside the word
    intro q h
    obtain ⟨h64, hj, hi'⟩ := hL q h
    rw [Nat.add_comm, ← exch_of_clear_set hji hi' hj]
    exact exch_lt (n := 6) hi (Nat.lt_trans hji hi) h64
  · -- `hdisj`: the two masks do not overlap
    intro q h
    obtain ⟨h64, _, hi'⟩ := hL q h
    rw [swapMask_shl_getLsbD hi hji q h64, hi']; rfl

end VoluteModel
