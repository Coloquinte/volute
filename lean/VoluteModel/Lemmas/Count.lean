import Mathlib.Data.List.Permutation
import VoluteModel.Lemmas.SeqCore

/-!
# Counting lemmas (the only file that imports a Mathlib module)

A duplicate-free list of n! permutations of `range n` contains every permutation of `range n`;
a duplicate-free list of N numbers below N contains every number below N.
-/

namespace VoluteModel

theorem perm_of_nodup_subset {α : Type} {V U : List α} (hnd : V.Nodup) (hsub : V ⊆ U) (hlen : U.length ≤ V.length) :
    V.Perm U :=
  (List.subperm_of_subset hnd hsub).perm_of_length_le hlen

theorem perms_covered (n : Nat) (V : List (List Nat)) (hnd : V.Nodup)
    (hp : ∀ v ∈ V, v.Perm (List.range n)) (hlen : n.factorial ≤ V.length) :
    ∀ σ : List Nat, σ.Perm (List.range n) → σ ∈ V := fun σ hσ =>
  (perm_of_nodup_subset hnd (fun v hv => List.mem_permutations.mpr (hp v hv))
    (by rw [List.length_permutations, List.length_range]; exact hlen)).mem_iff.mpr (List.mem_permutations.mpr hσ)

theorem range_covered (N : Nat) (V : List Nat) (hnd : V.Nodup) (hlt : ∀ v ∈ V, v < N) (hlen : N ≤ V.length) :
    ∀ x, x < N → x ∈ V := fun x hx =>
  (perm_of_nodup_subset hnd (fun v hv => List.mem_range.mpr (hlt v hv))
    (by rw [List.length_range]; exact hlen)).mem_iff.mpr (List.mem_range.mpr hx)

theorem factL_eq (n : Nat) : factL n = n.factorial := by
  induction n with
  | zero => rfl
  | succ n ih => simp only [factL, Nat.factorial_succ, ih]

end VoluteModel
