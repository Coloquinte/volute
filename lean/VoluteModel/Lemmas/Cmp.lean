import VoluteModel.Lemmas.Pointwise
import VoluteModel.Lemmas.ListFacts

/-!
# The number a table denotes

`toNatLE` reads the words as digits in base `2^64`, least significant first.  First the number itself:
its words, bits and bounds.  Then the order: `cmp` (`lexCmp` from the most significant word) is `compare` of the numbers,
with reflexivity and transitivity of `lexCmp` for lists of any lengths.  Last, extensionality: a
well-formed table, and a `Lut`, is determined by its number, hence by its values.
-/

namespace VoluteModel

theorem toNatLE_singleton (a : W) : toNatLE [a] = a.toNat := Nat.add_zero _

theorem toNatLE_cons_mod (a : W) (as : List W) : toNatLE (a :: as) % 2 ^ 64 = a.toNat := by
  rw [toNatLE, Nat.add_mul_mod_self_left, Nat.mod_eq_of_lt a.isLt]

theorem toNatLE_mod_two (c : List W) : toNatLE c % 2 = (c.headD 0).toNat % 2 := by
  cases c with
  | nil => rfl
  | cons a r => rw [← Nat.mod_mod_of_dvd _ (by decide : 2 ∣ 2 ^ 64), toNatLE_cons_mod, List.headD_cons]

theorem toNatLE_cons_div (a : W) (as : List W) : toNatLE (a :: as) / 2 ^ 64 = toNatLE as := by
  rw [toNatLE, Nat.add_mul_div_left _ _ (Nat.two_pow_pos 64), Nat.div_eq_of_lt a.isLt, Nat.zero_add]

theorem toNatLE_append (as bs : List W) :
    toNatLE (as ++ bs) = toNatLE as + 2 ^ (64 * as.length) * toNatLE bs := by
  induction as with
  | nil => rw [List.nil_append, toNatLE, List.length_nil, Nat.mul_zero, Nat.pow_zero, Nat.one_mul, Nat.zero_add]
  | cons a as ih =>
    rw [List.cons_append, toNatLE, toNatLE, ih, List.length_cons, Nat.mul_succ, Nat.pow_add, Nat.mul_add,
      Nat.mul_left_comm, Nat.mul_assoc, Nat.add_assoc]

theorem toNatLE_lt (as : List W) : toNatLE as < 2 ^ (64 * as.length) := by
  induction as with
  | nil => exact Nat.one_pos
  | cons a as ih =>
    rw [List.length_cons, Nat.mul_succ, Nat.pow_add, Nat.mul_comm]
    exact add_mul_lt a.isLt ih

theorem toNatLE_take_drop (c : List W) (m : Nat) :
    toNatLE (c.take m) = toNatLE c % 2 ^ (64 * m) ∧ toNatLE (c.drop m) = toNatLE c / 2 ^ (64 * m) := by
  induction m generalizing c with
  | zero => exact ⟨(Nat.mod_one _).symm, (Nat.div_one _).symm⟩
  | succ m ih =>
    cases c with
    | nil => exact ⟨(Nat.zero_mod _).symm, (Nat.zero_div _).symm⟩
    | cons a as =>
      obtain ⟨h1, h2⟩ := ih as
      rw [List.take_succ_cons, List.drop_succ_cons, Nat.mul_succ, Nat.add_comm, Nat.pow_add, ← Nat.div_div_eq_div_mul,
        toNatLE_cons_div, Nat.mod_mul, toNatLE_cons_mod, toNatLE_cons_div, ← h1, ← h2]
      exact ⟨rfl, rfl⟩

theorem toNatLE_take (c : List W) (m : Nat) : toNatLE (c.take m) = toNatLE c % 2 ^ (64 * m) :=
  (toNatLE_take_drop c m).1

theorem toNatLE_drop (c : List W) (m : Nat) : toNatLE (c.drop m) = toNatLE c / 2 ^ (64 * m) :=
  (toNatLE_take_drop c m).2

theorem toNatLE_eq_zero (c : List W) : toNatLE c = 0 ↔ ∀ w ∈ c, w = 0#64 := by
  induction c with
  | nil => exact ⟨fun _ _ h => absurd h List.not_mem_nil, fun _ => rfl⟩
  | cons a r ih =>
    rw [List.forall_mem_cons, ← ih, ← BitVec.toNat_inj, toNatLE, Nat.add_eq_zero_iff, Nat.mul_eq_zero]
    exact and_congr_right fun _ => ⟨fun h => h.resolve_left (Nat.ne_of_gt (Nat.two_pow_pos 64)), Or.inr⟩

theorem toNatLE_map_not (c : List W) : toNatLE (c.map (~~~ ·)) = 2 ^ (64 * c.length) - 1 - toNatLE c := by
  have h : toNatLE (c.map (~~~ ·)) + toNatLE c + 1 = 2 ^ (64 * c.length) := by
    induction c with
    | nil => rfl
    | cons a as ih =>
      have := a.isLt
      rw [List.map_cons, toNatLE, toNatLE, BitVec.toNat_not, List.length_cons, Nat.mul_succ, Nat.pow_add, ← ih]
      omega
  exact Nat.eq_sub_of_add_eq (Nat.eq_sub_of_add_eq h)

theorem toNatLE_inj (a b : List W) (h : a.length = b.length) (e : toNatLE a = toNatLE b) : a = b := by
  induction a, b, h using length_eq_induction with
  | nil => rfl
  | cons x xs y ys _ ih =>
    obtain ⟨h1, h2⟩ := add_mul_inj x.isLt y.isLt e
    rw [BitVec.eq_of_toNat_eq h1, ih h2]

theorem toNatLE_testBit (ws : List W) (m : Nat) :
    (toNatLE ws).testBit m = (ws[m / 64]?.getD 0).getLsbD (m % 64) := by
  induction ws generalizing m with
  | nil => simp [toNatLE]
  | cons a as ih =>
    rw [toNatLE, Nat.add_comm, Nat.testBit_two_pow_mul_add _ a.isLt]
    by_cases hm : m < 64
    · rw [if_pos hm, Nat.div_eq_of_lt hm, Nat.mod_eq_of_lt hm]; rfl
    · obtain ⟨j, rfl⟩ := Nat.exists_eq_add_of_le' (Nat.le_of_not_lt hm)
      rw [if_neg hm, ih, Nat.add_sub_cancel, Nat.add_div_right _ (by decide), Nat.add_mod_right]; rfl

theorem toNatLE_testBit_array (t : Array W) (m : Nat) : (toNatLE t.toList).testBit m = bit t m := by
  rw [toNatLE_testBit, Array.getElem?_toList]; rfl

theorem lexCmp_eq_compare (a b : List W) (h : a.length = b.length) :
    lexCmp a b = compare (toNatLE a.reverse) (toNatLE b.reverse) := by
  induction a, b, h using length_eq_induction with
  | nil => rfl
  | cons x xs y ys hl ih =>
    have hx := toNatLE_lt xs.reverse
    have hy := toNatLE_lt ys.reverse
    rw [List.length_reverse] at hx hy
    rw [List.reverse_cons, List.reverse_cons, toNatLE_append, toNatLE_append, toNatLE_singleton, toNatLE_singleton,
      List.length_reverse, List.length_reverse, ← hl, compare_add_mul hx (hl ▸ hy), ← ih]
    rfl

theorem cmpTables_eq (a b : Array W) (h : a.size = b.size) :
    cmpTables a b = compare (toNatLE a.toList) (toNatLE b.toList) := by
  rw [cmpTables, lexCmp_eq_compare _ _ (by simpa using h), List.reverse_reverse, List.reverse_reverse]

/-- `lexCmp` is core's lexicographic `compare` of the lists of numbers: its order laws are core's -/
theorem lexCmp_eq_compare_map : ∀ a b : List W, lexCmp a b = compare (a.map BitVec.toNat) (b.map BitVec.toNat)
  | [], [] | [], _ :: _ | _ :: _, [] => rfl
  | x :: xs, y :: ys => by
    rw [lexCmp, List.map_cons, List.map_cons, List.compare_cons_cons, ← lexCmp_eq_compare_map xs ys]
    cases compare x.toNat y.toNat <;> rfl

theorem lexCmp_self (a : List W) : lexCmp a a = .eq :=
  (lexCmp_eq_compare_map a a).trans Std.ReflOrd.compare_self

theorem lexCmp_lt_trans (a b c : List W) (h1 : lexCmp a b = .lt) (h2 : lexCmp b c = .lt) : lexCmp a c = .lt := by
  rw [lexCmp_eq_compare_map] at *
  exact Std.TransCmp.lt_trans h1 h2

theorem toNatLE_lt_of_WF {n : Nat} {t : Array W} (h : WF n t) : toNatLE t.toList < 2 ^ (2 ^ n) :=
  Nat.lt_pow_two_of_testBit _ fun m hm => by rw [toNatLE_testBit_array, WF_bit_ge h hm]

theorem eq_of_toNatLE {n : Nat} {t u : Array W} (ht : WF n t) (hu : WF n u)
    (h : toNatLE t.toList = toNatLE u.toList) : t = u :=
  Array.ext' (toNatLE_inj _ _ (by rw [Array.length_toList, Array.length_toList, ht.size, hu.size]) h)

theorem eq_of_bit {n : Nat} {t u : Array W} (ht : WF n t) (hu : WF n u)
    (h : ∀ m, m < 2 ^ n → bit t m = bit u m) : t = u :=
  eq_of_toNatLE ht hu ((eq_iff_testBit_lt (toNatLE_lt_of_WF ht) (toNatLE_lt_of_WF hu)).mpr fun m hm => by
    rw [toNatLE_testBit_array, toNatLE_testBit_array, h m hm])

/-- about NOT, but here because it needs `eq_of_bit` (`Pointwise` lies below this file) -/
theorem notInplace_notInplace (n : Nat) (t : Array W) (h : WF n t) : notInplace n (notInplace n t) = t :=
  have h1 := notInplace_spec n t h.size
  have h2 := notInplace_spec n _ h1.1.size
  eq_of_bit h2.1 h fun m hm => by rw [h2.2 m hm, h1.2 m hm, Bool.not_not]

theorem Lut.eq_of_t {a b : Lut} (hn : a.n = b.n) (ht : a.t = b.t) : a = b := by
  cases a; cases b
  exact congr (congrArg Lut.mk hn) ht

theorem Lut.ext_toNatLE {a b : Lut} (ha : a.WF) (hb : b.WF) (hn : a.n = b.n)
    (hv : toNatLE a.t.toList = toNatLE b.t.toList) : a = b :=
  Lut.eq_of_t hn (eq_of_toNatLE ha (hn ▸ hb) hv)

theorem eq_of_eval {a b : Lut} (ha : a.WF) (hb : b.WF) (hn : a.n = b.n)
    (h : ∀ m, m < 2 ^ a.n → a.eval m = b.eval m) : a = b :=
  Lut.eq_of_t hn (eq_of_bit ha (hn ▸ hb) h)

end VoluteModel
