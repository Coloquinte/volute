import VoluteModel.Lemmas.Orbit
import VoluteModel.Lemmas.SeqCore

/-!
# The certificate along the three macro-step lists, and what a walk returns

Closed forms of the certificate after a prefix of the P, N and NPN lists; the lists are admissible
(`Safe`) when the flip walk is closed, because then every swap happens at input mask zero; the walk
over an admissible closed list returns a visited table that no visited table is below.
-/

namespace VoluteModel

/-- the bridge from the array replay to `swapAdjL` on lists, in which the sequence facts are stated -/
theorem certAfter_swaps (n : Nat) (swaps : List Nat) (p : Array Nat) (m : Nat) :
    certAfter n (p, m) (swaps.map Elem.swap) = ((swaps.foldl (fun q s => swapAdjL s q) p.toList).toArray, m) := by
  induction swaps generalizing p with
  | nil => rfl
  | cons s ss ih =>
    rw [List.map_cons, List.foldl_cons, swapAdjL_eq]
    exact ih _

theorem p_mask_zero (n : Nat) (swaps : List Nat) (k : Nat) : (certAt n (macroP swaps) k).2 = 0 := by
  rw [certAt_macroP, certAfter_swaps]

/-- the mask after k macro-steps of the N walk -/
def maskN (n : Nat) (flips : List Nat) (k : Nat) : Nat :=
  if k % 2 = 0 then xorFlips (flips.take (k / 2)) else xorFlips (flips.take (k / 2 + 1)) ^^^ 2 ^ n

theorem maskN_even (n : Nat) (flips : List Nat) (i : Nat) : maskN n flips (2 * i) = xorFlips (flips.take i) := by
  rw [maskN, if_pos (Nat.mul_mod_right 2 i), Nat.mul_div_cancel_left i (by decide : 0 < 2)]

theorem maskN_odd (n : Nat) (flips : List Nat) (i : Nat) :
    maskN n flips (2 * i + 1) = xorFlips (flips.take (i + 1)) ^^^ 2 ^ n := by
  rw [maskN, if_neg (by rw [Nat.mul_add_mod]; decide), Nat.mul_add_div (by decide : 0 < 2)]

theorem maskN_zero (n : Nat) (flips : List Nat) : maskN n flips 0 = 0 := rfl

theorem maskN_one (n f : Nat) (fs : List Nat) : maskN n (f :: fs) 1 = 2 ^ f ^^^ 2 ^ n := by
  rw [maskN, if_neg (by decide), List.take_succ_cons, List.take_zero, xorFlips_cons, xorFlips_nil, Nat.xor_zero]

theorem maskN_add_two (n f : Nat) (fs : List Nat) (k : Nat) :
    maskN n (f :: fs) (k + 2) = 2 ^ f ^^^ maskN n fs k := by
  unfold maskN
  rw [Nat.add_mod_right, Nat.add_div_right k (by decide : 0 < 2), List.take_succ_cons, List.take_succ_cons,
    xorFlips_cons, xorFlips_cons]
  split
  · rfl
  · rw [Nat.xor_assoc]

theorem certAfter_macroN_take (n : Nat) (flips : List Nat) (p : Array Nat) (m k : Nat) (hk : k ≤ 2 * flips.length) :
    certAfter n (p, m) ((macroN flips).take k).flatten = (p, m ^^^ maskN n flips k) := by
  induction flips generalizing m k with
  | nil =>
    obtain rfl : k = 0 := Nat.le_zero.mp hk
    rw [maskN_zero, Nat.xor_zero]; rfl
  | cons f fs ih =>
    match k with
    | 0 => rw [maskN_zero, Nat.xor_zero]; rfl
    | 1 => rw [maskN_one, ← Nat.xor_assoc, ← Nat.one_shiftLeft, ← Nat.one_shiftLeft]; rfl
    | k + 2 =>
      rw [macroN_cons, List.take_succ_cons, List.take_succ_cons, List.flatten_cons, List.flatten_cons,
        certAfter_append, certAfter_append, maskN_add_two, ← Nat.xor_assoc, ← Nat.one_shiftLeft,
        show m ^^^ 1 <<< f = m ^^^ 1 <<< f ^^^ 1 <<< n ^^^ 1 <<< n by rw [xor_xor_cancel]]
      exact ih _ k (Nat.le_of_add_le_add_right hk)

theorem certAt_macroN (n : Nat) (flips : List Nat) (k : Nat) (hk : k ≤ (macroN flips).length) :
    certAt n (macroN flips) k = (Array.range n, maskN n flips k) := by
  rw [certAt, certAfter_macroN_take n flips _ 0 k (macroN_length flips ▸ hk), Nat.zero_xor]

theorem certAfter_macroN (n : Nat) (flips : List Nat) (p : Array Nat) (m : Nat) :
    certAfter n (p, m) (macroN flips).flatten = (p, m ^^^ xorFlips flips) := by
  have := certAfter_macroN_take n flips p m (2 * flips.length) (Nat.le_refl _)
  rwa [maskN_even, List.take_length, ← macroN_length, List.take_length] at this

theorem certAfter_macroNPN (n : Nat) (swaps flips : List Nat) (hf : flips ≠ []) (hc : xorFlips flips = 0)
    (p : Array Nat) (m : Nat) :
    certAfter n (p, m) (macroNPN swaps flips).flatten = certAfter n (p, m) (swaps.map Elem.swap) := by
  induction swaps generalizing p with
  | nil => rfl
  | cons s ss ih =>
    rw [macroNPN_cons, List.flatten_append, certAfter_append, macroBlock_flatten s flips hf]
    show certAfter n (certAfter n (p.swapIfInBounds s (s + 1), m) (macroN flips).flatten) _ = _
    rw [certAfter_macroN, hc, Nat.xor_zero, ih]
    rfl

theorem safe_swaps (n : Nat) (swaps : List Nat) (hv : ∀ s ∈ swaps, s + 1 < n) (p : Array Nat) (m : Nat)
    (hm : LowZero n m) : Safe n (p, m) (swaps.map Elem.swap) := by
  induction swaps generalizing p with
  | nil => trivial
  | cons s ss ih =>
    exact ⟨⟨hv s List.mem_cons_self, hm⟩, ih (fun x hx => hv x (List.mem_cons_of_mem _ hx)) _⟩

theorem safe_macroN (n : Nat) (flips : List Nat) (hv : ∀ f ∈ flips, f < n) (p : Array Nat) (m : Nat) :
    Safe n (p, m) (macroN flips).flatten := by
  induction flips generalizing m with
  | nil => trivial
  | cons f fs ih =>
    exact ⟨hv f List.mem_cons_self, trivial, trivial, ih (fun x hx => hv x (List.mem_cons_of_mem _ hx)) _⟩

theorem safe_macroNPN (n : Nat) (swaps flips : List Nat) (hf : flips ≠ []) (hvs : ∀ s ∈ swaps, s + 1 < n)
    (hvf : ∀ f ∈ flips, f < n) (hclosed : xorFlips flips = 0) (p : Array Nat) (m : Nat) (hm : LowZero n m) :
    Safe n (p, m) (macroNPN swaps flips).flatten := by
  induction swaps generalizing p with
  | nil => trivial
  | cons s ss ih =>
    rw [macroNPN_cons, List.flatten_append, macroBlock_flatten s flips hf, List.cons_append]
    refine ⟨⟨hvs s List.mem_cons_self, hm⟩, (safe_append n _ _ _).mpr ⟨safe_macroN n flips hvf _ m, ?_⟩⟩
    rw [certAfter_macroN, hclosed, Nat.xor_zero]
    exact ih (fun x hx => hvs x (List.mem_cons_of_mem _ hx)) _

theorem stateAt_flatten (n : Nat) (f : Array W) (ms : List (List Elem)) (k : Nat) :
    stateAt (applyElems n) f ms k = applyElems n f (ms.take k).flatten := by
  unfold stateAt applyElems
  rw [List.foldl_flatten]

theorem safe_prefix (n : Nat) (st : Array Nat × Nat) (ms : List (List Elem)) (k : Nat)
    (h : Safe n st ms.flatten) : Safe n st (ms.take k).flatten := by
  rw [← List.take_append_drop k ms, List.flatten_append, safe_append] at h
  exact h.1

theorem tracks_at (n : Nat) (f : Array W) (hf : WF n f) (ms : List (List Elem))
    (hsafe : Safe n (Array.range n, 0) ms.flatten) (k : Nat) :
    Tracks n f (stateAt (applyElems n) f ms k) (certAt n ms k) := by
  rw [stateAt_flatten]
  exact Tracks.steps ⟨hf, isPerm_range n, Nat.two_pow_pos _, cert_init n f⟩ (safe_prefix n _ ms k hsafe)

/-- a cycle: a non-empty admissible list of macro-steps whose certificate ends at the identity -/
structure ClosedWalk (n : Nat) (ms : List (List Elem)) : Prop where
  pos : 0 < ms.length
  safe : Safe n (Array.range n, 0) ms.flatten
  closed : certAfter n (Array.range n, 0) ms.flatten = (Array.range n, 0)

theorem ClosedWalk.table {n : Nat} {ms : List (List Elem)} (h : ClosedWalk n ms) (f : Array W) (hf : WF n f) :
    stateAt (applyElems n) f ms ms.length = f := by
  have ht := tracks_at n f hf ms h.safe ms.length
  rw [certAt_length, h.closed] at ht
  exact eq_of_cert_id n f _ hf ht.wf ht.rel

theorem walk_result (n : Nat) (f : Array W) (hf : WF n f) (ms : List (List Elem)) (h : ClosedWalk n ms) :
    let r := mwalk n ⟨f, f, ms.length - 1, 0⟩ ms
    (∀ k, k ≤ ms.length → ltT (stateAt (applyElems n) f ms k) r.best = false) ∧
    r.bestInd < ms.length ∧ stateAt (applyElems n) f ms (r.bestInd + 1) = r.best := by
  rw [mwalk_eq]
  exact walk_spec (applyElems n) ltT ltT_trans ltT_irrefl f ms h.pos (h.table f hf)

end VoluteModel
