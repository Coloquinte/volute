import VoluteModel.Lemmas.ListFacts
import VoluteModel.Lemmas.NatBits

/-!
# Reduced ordered BDDs with complemented edges over truth tables written as numbers

A table of k variables is a number below `P k = 2^(2^k)`: bit m is the value on assignment m.
`mk k t` is the textbook reduced ordered BDD (variable k-1 at the root) of a table that is 0 on the
all-zero assignment: the constant 0 is the only leaf, low edges are regular, high edges and the root
edge of a function (`norm`) carry a complement attribute.  `k`, `n` count variables; `v` names a top
variable, so what is indexed by a level v (`dep`, `sub`, `keeps`, `Kept1` ..) has v+1 variables.
-/

namespace VoluteModel.Robdd

def P (k : Nat) : Nat := 2 ^ (2 ^ k)

theorem P_succ (k : Nat) : P (k + 1) = P k * P k := by
  unfold P
  rw [Nat.pow_succ, Nat.mul_two, Nat.pow_add]

theorem P_pos (k : Nat) : 0 < P k := Nat.two_pow_pos _

theorem P_even (k : Nat) : P k % 2 = 0 := Nat.two_pow_mod_two_eq_zero.mpr (Nat.two_pow_pos k)

def compl (k t : Nat) : Nat := P k - 1 - t

/-- normal form: the value on the all-zero assignment is 0 (the complement is taken otherwise) -/
def norm (k t : Nat) : Nat := if t % 2 = 1 then compl k t else t

inductive B where
  | leaf : B
  | node (v : Nat) (lo hi : B) (c : Bool) : B
deriving DecidableEq

/-- a table of v+1 variables depends on its top variable x_v when its two halves differ -/
def dep (v g : Nat) : Prop := g % P v ≠ g / P v

instance (v g : Nat) : Decidable (dep v g) := by unfold dep; exact inferInstance

def mk : Nat → Nat → B
  | 0, _ => .leaf
  | k + 1, t =>
    if t % P k = t / P k then mk k (t % P k)
    else .node k (mk k (t % P k)) (mk k (norm k (t / P k))) (decide ((t / P k) % 2 = 1))

theorem not_dep_zero (v : Nat) : ¬ dep v 0 := by simp [dep]

theorem eq_of_not_dep {v g : Nat} (h : ¬ dep v g) : g % P v = g / P v := Decidable.of_not_not h

theorem mk_of_not_dep {k t : Nat} (h : ¬ dep k t) : mk (k + 1) t = mk k (t % P k) := if_pos (eq_of_not_dep h)

theorem mk_dep {v g : Nat} (hd : dep v g) :
    mk (v + 1) g = .node v (mk v (g % P v)) (mk v (norm v (g / P v))) (decide ((g / P v) % 2 = 1)) := if_neg hd

/-- a normalised table of k variables -/
def Valid (k t : Nat) : Prop := t < P k ∧ t % 2 = 0

theorem lo_valid (k t : Nat) (h : Valid (k + 1) t) : Valid k (t % P k) := by
  refine ⟨Nat.mod_lt _ (P_pos k), ?_⟩
  rw [Nat.mod_mod_of_dvd t (Nat.dvd_of_mod_eq_zero (P_even k))]
  exact h.2

theorem div_P_lt {k t : Nat} (h : t < P (k + 1)) : t / P k < P k := by
  rwa [Nat.div_lt_iff_lt_mul (P_pos k), ← P_succ]

theorem hi_lt (k t : Nat) (h : Valid (k + 1) t) : t / P k < P k := div_P_lt h.1

theorem compl_lt (k t : Nat) : compl k t < P k := by
  unfold compl; have := P_pos k; omega

theorem compl_compl {k t : Nat} (h : t < P k) : compl k (compl k t) = t :=
  Nat.sub_sub_self (Nat.le_sub_one_of_lt h)

theorem compl_testBit (k t : Nat) (h : t < P k) (i : Nat) :
    (compl k t).testBit i = (decide (i < 2 ^ k) && !t.testBit i) :=
  testBit_two_pow_sub_one_sub h i

theorem P_pred_odd (k : Nat) : (P k - 1) % 2 = 1 := by
  unfold P
  rw [Nat.two_pow_sub_one_mod_two, Nat.one_mod_two_pow (Nat.two_pow_pos k)]

/-- a table and its complement add up to the odd number `P k - 1` -/
theorem compl_mod_two {k t : Nat} (h : t < P k) : compl k t % 2 = 1 - t % 2 := by
  have hs := P_pred_odd k
  rw [← show compl k t + t = P k - 1 from Nat.sub_add_cancel (Nat.le_sub_one_of_lt h), Nat.add_mod] at hs
  rcases Nat.mod_two_eq_zero_or_one t with e | e
  · rw [e, Nat.add_zero, Nat.mod_mod] at hs
    rw [hs, e]
  · rcases Nat.mod_two_eq_zero_or_one (compl k t) with e' | e'
    · rw [e', e]
    · rw [e', e] at hs
      exact absurd hs (by decide)

theorem compl_eq_zero {k t : Nat} (h : t < P k) : compl k t = 0 ↔ t = P k - 1 := by
  unfold compl
  rw [Nat.sub_eq_zero_iff_le]
  exact ⟨fun e => Nat.le_antisymm (Nat.le_sub_one_of_lt h) e, fun e => Nat.le_of_eq e.symm⟩

theorem norm_valid (k t : Nat) (h : t < P k) : Valid k (norm k t) := by
  unfold norm
  split
  · next ht => exact ⟨compl_lt k t, by rw [compl_mod_two h, ht]⟩
  · next ht => exact ⟨h, Nat.mod_two_ne_one.mp ht⟩

theorem norm_of_valid {k t : Nat} (h : Valid k t) : norm k t = t := by
  unfold norm
  rw [if_neg (by rw [h.2]; omega)]

theorem norm_compl {k g : Nat} (h : g < P k) : norm k (compl k g) = norm k g := by
  unfold norm
  by_cases hg : g % 2 = 1
  · rw [if_pos hg, if_neg (by rw [compl_mod_two h, hg]; decide)]
  · rw [if_neg hg, if_pos (by rw [compl_mod_two h, Nat.mod_two_ne_one.mp hg]), compl_compl h]

theorem norm_inj {k a b : Nat} (ha : a < P k) (hb : b < P k) (hp : a % 2 = 1 ↔ b % 2 = 1)
    (h : norm k a = norm k b) : a = b := by
  unfold norm at h
  by_cases h1 : a % 2 = 1
  · rw [if_pos h1, if_pos (hp.mp h1)] at h
    rw [← compl_compl ha, h, compl_compl hb]
  · rwa [if_neg h1, if_neg (mt hp.mpr h1)] at h

theorem mk_zero (k : Nat) : mk k 0 = .leaf := by
  induction k with
  | zero => rfl
  | succ k ih => rw [mk_of_not_dep (not_dep_zero k), Nat.zero_mod, ih]

theorem root_lt {k t v : Nat} {lo hi : B} {c : Bool} (h : mk k t = .node v lo hi c) : v < k := by
  induction k generalizing t with
  | zero => cases h
  | succ k ih =>
    by_cases hd : dep k t
    · rw [mk_dep hd] at h
      cases h
      exact Nat.lt_succ_self _
    · rw [mk_of_not_dep hd] at h
      exact Nat.lt_succ_of_lt (ih h)

theorem valid_zero {t : Nat} (h : Valid 0 t) : t = 0 :=
  (Nat.mod_eq_of_lt h.1).symm.trans h.2

theorem mk_eq_leaf_iff {k t : Nat} (hv : Valid k t) : mk k t = .leaf ↔ t = 0 := by
  refine ⟨fun h => ?_, fun h => by rw [h, mk_zero]⟩
  induction k generalizing t with
  | zero => exact valid_zero hv
  | succ k ih =>
    by_cases hd : dep k t
    · rw [mk_dep hd] at h
      cases h
    · -- both halves are the low half, which is 0
      rw [mk_of_not_dep hd] at h
      rw [← Nat.div_add_mod t (P k), ← eq_of_not_dep hd, ih (lo_valid k t hv) h, Nat.mul_zero]

/-- canonicity: different normalised tables have different BDDs -/
theorem mk_inj (k t1 t2 : Nat) (h1 : Valid k t1) (h2 : Valid k t2) (h : mk k t1 = mk k t2) : t1 = t2 := by
  induction k generalizing t1 t2 with
  | zero => rw [valid_zero h1, valid_zero h2]
  | succ k ih =>
    -- a table is its two halves
    suffices hh : t1 % P k = t2 % P k ∧ t1 / P k = t2 / P k from Nat.ext_div_mod hh.2 hh.1
    have hlo := ih _ _ (lo_valid k t1 h1) (lo_valid k t2 h2)
    by_cases c1 : dep k t1
    · by_cases c2 : dep k t2
      · rw [mk_dep c1, mk_dep c2] at h
        injection h with _ hl hhi hc
        have hn := ih _ _ (norm_valid k _ (hi_lt k t1 h1)) (norm_valid k _ (hi_lt k t2 h2)) hhi
        exact ⟨hlo hl, norm_inj (hi_lt k t1 h1) (hi_lt k t2 h2) (decide_eq_decide.mp hc) hn⟩
      · -- a node labelled k is not the BDD of a table of k variables
        rw [mk_dep c1, mk_of_not_dep c2] at h
        exact absurd (root_lt h.symm) (Nat.lt_irrefl k)
    · by_cases c2 : dep k t2
      · rw [mk_of_not_dep c1, mk_dep c2] at h
        exact absurd (root_lt h) (Nat.lt_irrefl k)
      · rw [mk_of_not_dep c1, mk_of_not_dep c2] at h
        exact ⟨hlo h, by rw [← eq_of_not_dep c1, ← eq_of_not_dep c2, hlo h]⟩

def nodes : B → List B
  | .leaf => []
  | .node v lo hi c => .node v lo hi c :: (nodes lo ++ nodes hi)

/-- the a-th block of 2^(v+1) bits: the sub-function of x_0..x_v with the variables above v fixed to
    the bits of a -/
def sub (v a t : Nat) : Nat := t / 2 ^ (a * 2 ^ (v + 1)) % P (v + 1)

theorem sub_lt (v a t : Nat) : sub v a t < P (v + 1) := Nat.mod_lt _ (P_pos _)

theorem sub_testBit (v a t i : Nat) : (sub v a t).testBit i = (decide (i < 2 ^ (v + 1)) && t.testBit (a * 2 ^ (v + 1) + i)) := by
  unfold sub P
  rw [Nat.testBit_mod_two_pow, Nat.testBit_div_two_pow, Nat.add_comm i]

/-- a table of n variables is 2^(n-1-v) blocks of 2^(v+1) bits -/
theorem blocks_mul {v n : Nat} (hv : v < n) : 2 ^ (n - 1 - v) * 2 ^ (v + 1) = 2 ^ n := by
  rw [← Nat.pow_add, Nat.sub_sub, Nat.add_comm 1 v, Nat.sub_add_cancel hv]

theorem block_lt {n v a i : Nat} (hv : v < n) (ha : a < 2 ^ (n - 1 - v)) (hi : i < 2 ^ (v + 1)) :
    a * 2 ^ (v + 1) + i < 2 ^ n := by
  rw [← blocks_mul hv, Nat.add_comm, Nat.mul_comm a, Nat.mul_comm (2 ^ (n - 1 - v))]
  exact add_mul_lt hi ha

theorem sub_eq_sub {v a a' x y : Nat}
    (h : ∀ i, i < 2 ^ (v + 1) → x.testBit (a * 2 ^ (v + 1) + i) = y.testBit (a' * 2 ^ (v + 1) + i)) :
    sub v a x = sub v a' y := by
  apply Nat.eq_of_testBit_eq
  intro i
  rw [sub_testBit, sub_testBit]
  by_cases hi : i < 2 ^ (v + 1)
  · rw [h i hi]
  · rw [decide_eq_false hi, Bool.false_and, Bool.false_and]

theorem sub_lo {n v a : Nat} (t : Nat) (hv : v < n) (ha : a < 2 ^ (n - 1 - v)) : sub v a (t % P n) = sub v a t :=
  sub_eq_sub fun i hi => by
    unfold P
    rw [Nat.testBit_mod_two_pow, decide_eq_true (block_lt hv ha hi), Bool.true_and]

theorem sub_hi {n v : Nat} (a t : Nat) (hv : v < n) : sub v a (t / P n) = sub v (a + 2 ^ (n - 1 - v)) t :=
  sub_eq_sub fun i _ => by
    unfold P
    rw [Nat.testBit_div_two_pow, Nat.add_mul, blocks_mul hv, Nat.add_right_comm]

theorem sub_sub {u v j : Nat} (hv : v ≤ u) (q t : Nat) (hj : j < 2 ^ (u - v)) :
    sub v j (sub u q t) = sub v (q * 2 ^ (u - v) + j) t :=
  sub_eq_sub fun i hi => by
    have e : 2 ^ (u - v) * 2 ^ (v + 1) = 2 ^ (u + 1) := by rw [← Nat.pow_add, ← Nat.add_assoc, Nat.sub_add_cancel hv]
    rw [sub_testBit, decide_eq_true (block_lt (Nat.lt_succ_of_le hv) hj hi), Bool.true_and, Nat.add_mul, Nat.mul_assoc, e, Nat.add_assoc]

theorem sub_compl {n v a t : Nat} (hv : v < n) (ha : a < 2 ^ (n - 1 - v)) (ht : t < P n) :
    sub v a (compl n t) = compl (v + 1) (sub v a t) := by
  rw [eq_iff_testBit_lt (sub_lt v a _) (compl_lt _ _)]
  intro i hi
  rw [sub_testBit, compl_testBit n t ht, compl_testBit (v + 1) _ (sub_lt v a t), sub_testBit,
    decide_eq_true hi, decide_eq_true (block_lt hv ha hi)]
  simp only [Bool.true_and]

theorem sub_beyond {n v a t : Nat} (hv : v < n) (ht : t < P n) (ha : 2 ^ (n - 1 - v) ≤ a) : sub v a t = 0 := by
  have h : 2 ^ n ≤ a * 2 ^ (v + 1) := blocks_mul hv ▸ Nat.mul_le_mul_right _ ha
  unfold sub
  rw [Nat.div_eq_of_lt (Nat.lt_of_lt_of_le ht (Nat.pow_le_pow_right (by decide) h)), Nat.zero_mod]

theorem norm_sub_compl {n v a t : Nat} (hv : v < n) (ha : a < 2 ^ (n - 1 - v)) (ht : t < P n) :
    norm (v + 1) (sub v a (compl n t)) = norm (v + 1) (sub v a t) := by
  rw [sub_compl hv ha ht, norm_compl (sub_lt v a t)]

theorem sub_norm {n v a t : Nat} (hv : v < n) (ha : a < 2 ^ (n - 1 - v)) (ht : t < P n) :
    norm (v + 1) (sub v a (norm n t)) = norm (v + 1) (sub v a t) := by
  unfold norm
  split
  · exact norm_sub_compl hv ha ht
  · rfl

/-- the blocks of a table of n+1 variables: itself, and the blocks of its two halves
    (`2 ^ (n - v)` is the usual bound `2 ^ (n + 1 - 1 - v)`, reduced).  `Q` is abstract because
    `mem_nodes_mk` puts "depends on its top variable and is this node" there -/
theorem exists_sub_succ {n t : Nat} (ht : t < P (n + 1)) (Q : Nat → Nat → Prop) :
    (∃ v a, v < n + 1 ∧ a < 2 ^ (n - v) ∧ Q v (sub v a t)) ↔
      Q n t ∨ (∃ v a, v < n ∧ a < 2 ^ (n - 1 - v) ∧ Q v (sub v a (t % P n))) ∨
        (∃ v a, v < n ∧ a < 2 ^ (n - 1 - v) ∧ Q v (sub v a (t / P n))) := by
  have hroot : sub n 0 t = t := by
    unfold sub; rw [Nat.zero_mul, Nat.pow_zero, Nat.div_one, Nat.mod_eq_of_lt ht]
  have e : ∀ v, v < n → 2 ^ (n - v) = 2 ^ (n - 1 - v) + 2 ^ (n - 1 - v) := by
    intro v hv
    rw [← Nat.mul_two, ← Nat.pow_succ, Nat.sub_right_comm, Nat.succ_eq_add_one,
      Nat.sub_add_cancel (Nat.sub_pos_of_lt hv)]
  constructor
  · rintro ⟨v, a, hv, ha, hq⟩
    by_cases hvn : v = n
    · subst hvn
      rw [Nat.sub_self, Nat.pow_zero, Nat.lt_one_iff] at ha
      rw [ha, hroot] at hq
      exact Or.inl hq
    · have hv' : v < n := Nat.lt_of_le_of_ne (Nat.le_of_lt_succ hv) hvn
      rw [e v hv'] at ha
      by_cases hlt : a < 2 ^ (n - 1 - v)
      · exact Or.inr (Or.inl ⟨v, a, hv', hlt, by rwa [sub_lo t hv' hlt]⟩)
      · have hge := Nat.le_of_not_lt hlt
        refine Or.inr (Or.inr ⟨v, a - 2 ^ (n - 1 - v), hv', Nat.sub_lt_left_of_lt_add hge ha, ?_⟩)
        rwa [sub_hi _ t hv', Nat.sub_add_cancel hge]
  · rintro (hq | ⟨v, a, hv, ha, hq⟩ | ⟨v, a, hv, ha, hq⟩)
    · exact ⟨n, 0, Nat.lt_succ_self n, Nat.two_pow_pos _, by rwa [hroot]⟩
    · rw [sub_lo t hv ha] at hq
      exact ⟨v, a, Nat.lt_succ_of_lt hv, by rw [e v hv]; exact Nat.lt_add_right _ ha, hq⟩
    · rw [sub_hi a t hv] at hq
      exact ⟨v, a + 2 ^ (n - 1 - v), Nat.lt_succ_of_lt hv, by rw [e v hv]; exact Nat.add_lt_add_right ha _, hq⟩

def nodeOf (v a t : Nat) : B := mk (v + 1) (norm (v + 1) (sub v a t))

/-- the nodes of `mk n t`: one for every sub-function that depends on its top variable -/
theorem mem_nodes_mk (n t : Nat) (ht : Valid n t) (b : B) :
    b ∈ nodes (mk n t) ↔ ∃ v a, v < n ∧ a < 2 ^ (n - 1 - v) ∧ dep v (norm (v + 1) (sub v a t)) ∧ b = nodeOf v a t := by
  induction n generalizing t b with
  | zero =>
    refine ⟨fun h => absurd h List.not_mem_nil, ?_⟩
    rintro ⟨v, _, hv, _⟩
    exact absurd hv (Nat.not_lt_zero v)
  | succ n ih =>
    have hhi := hi_lt n t ht
    -- the blocks of the normalised high half denote the same nodes as those of the high half
    have ihhi := (ih _ (norm_valid n _ hhi) b).trans
      (exists_congr fun v => exists_congr fun a => and_congr_right fun hv => and_congr_right fun ha => by
        unfold nodeOf; rw [sub_norm hv ha hhi])
    refine Iff.trans ?_ (exists_sub_succ ht.1
      (fun v g => dep v (norm (v + 1) g) ∧ b = mk (v + 1) (norm (v + 1) g))).symm
    refine Iff.trans ?_ (or_congr Iff.rfl (or_congr (ih _ (lo_valid n t ht) b) ihhi))
    -- left: b ∈ nodes (mk (n+1) t) ↔ (dep n t' ∧ b = mk (n+1) t') ∨ b ∈ nodes (mk n lo) ∨ b ∈ nodes (mk n (norm n hi)),
    -- with t' = norm (n+1) t, which is t
    rw [norm_of_valid ht]
    by_cases hd : dep n t
    · rw [mk_dep hd, nodes, List.mem_cons, List.mem_append]
      exact or_congr (and_iff_right hd).symm Iff.rfl
    · -- no root node, and the two halves are the same table
      rw [mk_of_not_dep hd, ← eq_of_not_dep hd, norm_of_valid (lo_valid n t ht)]
      exact ⟨fun h => Or.inr (Or.inl h), fun h => h.elim (fun h => absurd h.1 hd) (fun h => h.elim id id)⟩

/-- a node that denotes a single literal: low edge to 0, complemented high edge to 0 -/
def isLit : B → Bool
  | .node _ .leaf .leaf true => true
  | _ => false

/-- the table of the literal x_v among the normalised tables of v+1 variables -/
def litTable (v g : Nat) : Prop := g % P v = 0 ∧ g / P v = P v - 1

instance (v g : Nat) : Decidable (litTable v g) := by unfold litTable; exact inferInstance

theorem isLit_node (v : Nat) (lo hi : B) (c : Bool) :
    isLit (.node v lo hi c) = true ↔ lo = .leaf ∧ hi = .leaf ∧ c = true := by
  cases lo <;> cases hi <;> cases c <;> simp [isLit]

theorem isLit_mk {v g : Nat} (hv : Valid (v + 1) g) (hd : dep v g) :
    isLit (mk (v + 1) g) = decide (litTable v g) := by
  have hhi := hi_lt v g hv
  rw [Bool.eq_iff_iff, decide_eq_true_iff, mk_dep hd, isLit_node, mk_eq_leaf_iff (lo_valid v g hv),
    mk_eq_leaf_iff (norm_valid v _ hhi), decide_eq_true_iff]
  unfold litTable
  refine and_congr_right fun _ => ?_
  -- the high half is all ones exactly when it is odd and its complement is 0
  unfold norm
  constructor
  · rintro ⟨h0, hodd⟩
    rwa [if_pos hodd, compl_eq_zero hhi] at h0
  · intro e
    have hodd : g / P v % 2 = 1 := by rw [e]; exact P_pred_odd v
    exact ⟨by rwa [if_pos hodd, compl_eq_zero hhi], hodd⟩

/-- the two `retain` filters of bdd.rs on a table of v+1 variables as a number -/
def keeps (v g : Nat) : Prop :=
  dep v g ∧ ¬ (g % P v = compl v (g / P v) ∧ (g % P v = 0 ∨ g / P v = 0))

theorem keeps_iff {v g : Nat} (hg : Valid (v + 1) g) : keeps v g ↔ dep v g ∧ ¬ litTable v g := by
  have hlo := (lo_valid v g hg).2
  have hhi := hi_lt v g hg
  unfold keeps litTable
  refine and_congr_right fun _ => not_congr ⟨?_, ?_⟩
  · rintro ⟨e, h0 | h0⟩
    · exact ⟨h0, (compl_eq_zero hhi).mp (e ▸ h0)⟩
    · -- the low half is even, so of two complementary halves only the high one can be all ones:
      -- here the low half would be the odd number P v - 1
      rw [e, h0, show compl v 0 = P v - 1 from rfl, P_pred_odd] at hlo
      cases hlo
  · rintro ⟨h0, h1⟩
    exact ⟨by rw [h0, (compl_eq_zero hhi).mpr h1], Or.inl h0⟩

/-- the sub-functions one table of n variables contributes at level v -/
def Kept1 (n v t g : Nat) : Prop :=
  ∃ a, a < 2 ^ (n - 1 - v) ∧ g = norm (v + 1) (sub v a t) ∧ dep v g ∧ ¬ litTable v g

/-- the sub-functions counted at level v for a list of tables of n variables -/
def Kept (n v : Nat) (ts : List Nat) (g : Nat) : Prop :=
  ∃ t ∈ ts, ∃ a, a < 2 ^ (n - 1 - v) ∧ g = norm (v + 1) (sub v a t) ∧ dep v g ∧ ¬ litTable v g

theorem kept1_compl {n v t : Nat} (g : Nat) (hv : v < n) (ht : t < P n) : Kept1 n v (compl n t) g ↔ Kept1 n v t g :=
  exists_congr fun a => and_congr_right fun ha => by rw [norm_sub_compl hv ha ht]

theorem not_keeps_zero (v : Nat) : ¬ keeps v 0 := fun h => not_dep_zero v h.1

/-- in the terms of bdd.rs, which filters the first N blocks whatever the table is: blocks beyond
    the table are 0, and 0 does not pass -/
theorem kept1_iff {n v t N : Nat} (g : Nat) (hv : v < n) (ht : t < P n) (hN : 2 ^ (n - 1 - v) ≤ N) :
    Kept1 n v t g ↔ ∃ a, a < N ∧ g = norm (v + 1) (sub v a t) ∧ keeps v g := by
  constructor
  · rintro ⟨a, ha, hg, hd⟩
    exact ⟨a, Nat.lt_of_lt_of_le ha hN, hg, (keeps_iff (hg ▸ norm_valid _ _ (sub_lt v a t))).mpr hd⟩
  · rintro ⟨a, _, hg, hk⟩
    refine ⟨a, Nat.lt_of_not_le fun ha => not_keeps_zero v ?_, hg,
      (keeps_iff (hg ▸ norm_valid _ _ (sub_lt v a t))).mp hk⟩
    rw [hg, sub_beyond hv ht ha] at hk
    exact hk

/-- a non-literal node of the shared BDD of the list -/
def SharedNode (n : Nat) (ts : List Nat) (b : B) : Prop :=
  (∃ t ∈ ts, b ∈ nodes (mk n (norm n t))) ∧ isLit b = false

theorem sharedNode_iff {n : Nat} {ts : List Nat} (hts : ∀ t ∈ ts, t < P n) (b : B) :
    SharedNode n ts b ↔ ∃ v g, v < n ∧ Kept n v ts g ∧ b = mk (v + 1) g := by
  unfold SharedNode Kept
  constructor
  · rintro ⟨⟨t, ht, hb⟩, hl⟩
    obtain ⟨v, a, hv, ha, hd, rfl⟩ := (mem_nodes_mk n _ (norm_valid n t (hts t ht)) b).mp hb
    unfold nodeOf at hl ⊢
    rw [sub_norm hv ha (hts t ht)] at hd hl ⊢
    rw [isLit_mk (norm_valid _ _ (sub_lt v a t)) hd, decide_eq_false_iff_not] at hl
    exact ⟨v, _, hv, ⟨t, ht, a, ha, rfl, hd, hl⟩, rfl⟩
  · rintro ⟨v, g, hv, ⟨t, ht, a, ha, rfl, hd, hnl⟩, rfl⟩
    have hn := sub_norm hv ha (hts t ht)
    refine ⟨⟨t, ht, (mem_nodes_mk n _ (norm_valid n t (hts t ht)) _).mpr
      ⟨v, a, hv, ha, by rwa [hn], by unfold nodeOf; rw [hn]⟩⟩, ?_⟩
    rw [isLit_mk (norm_valid _ _ (sub_lt v a t)) hd, decide_eq_false_iff_not]
    exact hnl

/-- level 0 has only the literal -/
theorem kept_zero {n : Nat} {ts : List Nat} {g : Nat} : ¬ Kept n 0 ts g := by
  rintro ⟨t, _, a, _, hg, hd, hnl⟩
  have hv : Valid 1 g := hg ▸ norm_valid _ _ (sub_lt 0 a t)
  have h1 : g < 4 := hv.1
  have hd : g % 2 ≠ g / 2 := hd
  have hhi : g / 2 = 1 := by have := hv.2; omega
  exact hnl ⟨hv.2, hhi⟩

theorem kept_valid {n v : Nat} {ts : List Nat} {g : Nat} (h : Kept n v ts g) : Valid (v + 1) g := by
  obtain ⟨t, _, a, _, rfl, _⟩ := h
  exact norm_valid _ _ (sub_lt v a t)

/-- the BDDs `mk (v + 1) g` of the kept sub-functions g of the levels 1..n-1 are, without repetition,
    the non-literal nodes of the shared BDD -/
theorem shared_count (n : Nat) (ts : List Nat) (hts : ∀ t ∈ ts, t < P n) (G : Nat → List Nat)
    (hnd : ∀ v, 1 ≤ v → v < n → (G v).Nodup)
    (hmem : ∀ v, 1 ≤ v → v < n → ∀ g, g ∈ G v ↔ Kept n v ts g) :
    let L := (List.range' 1 (n - 1)).flatMap (fun v => (G v).map (mk (v + 1)))
    L.Nodup ∧ (∀ b, b ∈ L ↔ SharedNode n ts b) ∧
      L.length = ((List.range' 1 (n - 1)).map (fun v => (G v).length)).sum := by
  intro L
  have hrange : ∀ v, v ∈ List.range' 1 (n - 1) ↔ 1 ≤ v ∧ v < n := fun v => mem_range'_sub
  -- no duplicates: the root of `mk (v + 1) g` is labelled `v`, and `mk (v + 1)` is injective
  refine ⟨nodup_flatMap_map List.nodup_range' (fun v hv => hnd v ((hrange v).mp hv).1 ((hrange v).mp hv).2) ?_,
    ?_, ?_⟩
  · intro v hv g hg w hw g' hg' e
    obtain ⟨v1, v2⟩ := (hrange v).mp hv
    obtain ⟨w1, w2⟩ := (hrange w).mp hw
    have kg := (hmem v v1 v2 g).mp hg
    have kg' := (hmem w w1 w2 g').mp hg'
    obtain rfl : v = w := by
      obtain ⟨_, _, _, _, _, hd, _⟩ := kg
      obtain ⟨_, _, _, _, _, hd', _⟩ := kg'
      rw [mk_dep hd, mk_dep hd'] at e
      exact (B.node.inj e).1
    exact ⟨rfl, mk_inj (v + 1) g g' (kept_valid kg) (kept_valid kg') e⟩
  · intro b
    show b ∈ (List.range' 1 (n - 1)).flatMap (fun v => (G v).map (mk (v + 1))) ↔ SharedNode n ts b
    rw [sharedNode_iff hts b, List.mem_flatMap]
    constructor
    · rintro ⟨v, hv, hb⟩
      obtain ⟨h1, h2⟩ := (hrange v).mp hv
      obtain ⟨g, hg, rfl⟩ := List.mem_map.mp hb
      exact ⟨v, g, h2, (hmem v h1 h2 g).mp hg, rfl⟩
    · rintro ⟨v, g, hv, hk, rfl⟩
      have h1 : 1 ≤ v := Nat.pos_of_ne_zero fun h0 => kept_zero (h0 ▸ hk)
      exact ⟨v, (hrange v).mpr ⟨h1, hv⟩, List.mem_map.mpr ⟨g, (hmem v h1 hv g).mpr hk, rfl⟩⟩
  · simp only [L, List.length_flatMap, List.length_map]

end VoluteModel.Robdd
