import VoluteModel.Lemmas.TableFacts
import VoluteModel.Lemmas.NatBits

/-!
# Tables as words and as functions

`bit t m` sits in word `m / 64` at position `m % 64`, and the words of a table of `n` variables hold
nothing from position `2^n` on.  This file is the interface to both facts: how many words there are, what
the two masks select, `bit` of a table given word by word, and well-formedness read on words, on
positions and on assignments.
An assignment is handed to `bit_of_split` / `bit_map_src` / `bit_gather_src` as its split
`m / 64 = .. ∧ m % 64 = ..`; that is why the index lemmas of NatBits (`word_index`, `xor_two_pow_lo/hi`,
`condFlip_split_*`, `exch_split_*`) all conclude with such a pair.
-/

namespace VoluteModel

theorem tableSize_eq_two_pow (n : Nat) : tableSize n = 2 ^ (n - 6) := by
  unfold tableSize
  split
  · exact Nat.one_shiftLeft _
  · next h => rw [Nat.sub_eq_zero_of_le (Nat.le_of_not_lt h)]; rfl

theorem tableSize_le6 {n : Nat} (h : n ≤ 6) : tableSize n = 1 := by
  rw [tableSize_eq_two_pow, Nat.sub_eq_zero_of_le h]

theorem tableSize_pos (n : Nat) : 0 < tableSize n := by
  rw [tableSize_eq_two_pow]; exact Nat.two_pow_pos _

/-! `tableSize_eq_two_pow` is the closed form of the definition (the subtraction is truncated); the next four say "words × 64 =
bits" in the form a client states it: the pair loops (`* 64 = 2^n`), `blocks()` (`max 1 (2^n / 64)`), the
BDD levels (`max 64 (2^n)` bits stored), the number layer (`wordBits_split`). -/

theorem tableSize_mul_64 {n : Nat} (h : 6 ≤ n) : tableSize n * 64 = 2 ^ n := by
  rw [tableSize_eq_two_pow, show (64 : Nat) = 2 ^ 6 from rfl, ← Nat.pow_add, Nat.sub_add_cancel h]

theorem tableSize_eq (n : Nat) : tableSize n = max 1 (2 ^ n / 64) := by
  by_cases h : n ≤ 6
  · rw [tableSize_le6 h, Nat.max_eq_left (Nat.div_le_of_le_mul (two_pow_le_64 h))]
  · rw [← tableSize_mul_64 (Nat.le_of_not_le h), Nat.mul_div_cancel _ (by decide),
      Nat.max_eq_right (tableSize_pos n)]

theorem tableSize_bits (n : Nat) : 64 * tableSize n = max 64 (2 ^ n) := by
  by_cases h : n ≤ 6
  · rw [tableSize_le6 h, Nat.max_eq_left (two_pow_le_64 h)]
  · have h6 : 6 ≤ n := Nat.le_of_not_le h
    rw [Nat.mul_comm, tableSize_mul_64 h6, Nat.max_eq_right (le_two_pow_of_ge6 h6)]

/-- words × bits per word = `2^n`, and either every word is full or there is one word -/
theorem wordBits_split (n : Nat) :
    min (2 ^ n) 64 * tableSize n = 2 ^ n ∧ (min (2 ^ n) 64 = 64 ∨ tableSize n ≤ 1) := by
  by_cases h : n ≤ 6
  · rw [tableSize_le6 h, Nat.min_eq_left (two_pow_le_64 h)]
    exact ⟨Nat.mul_one _, Or.inr (Nat.le_refl 1)⟩
  · have h6 : 6 ≤ n := Nat.le_of_not_le h
    rw [Nat.min_eq_right (le_two_pow_of_ge6 h6), Nat.mul_comm, tableSize_mul_64 h6]
    exact ⟨rfl, Or.inl rfl⟩

theorem size_eq_two_pow {n : Nat} {t : Array W} (hs : t.size = tableSize n) : t.size = 2 ^ (n - 6) :=
  hs.trans (tableSize_eq_two_pow n)

theorem lt_two_pow_iff_word_pos (n m : Nat) : m < 2 ^ n ↔ m / 64 < tableSize n ∧ m % 64 < 2 ^ n := by
  by_cases h : n ≤ 6
  · rw [tableSize_le6 h, Nat.div_lt_iff_lt_mul (by decide), Nat.one_mul]
    constructor
    · intro hm
      have h64 := Nat.lt_of_lt_of_le hm (two_pow_le_64 h)
      exact ⟨h64, by rwa [Nat.mod_eq_of_lt h64]⟩
    · rintro ⟨h64, hm⟩
      rwa [Nat.mod_eq_of_lt h64] at hm
  · have h6 : 6 ≤ n := Nat.le_of_not_le h
    rw [Nat.div_lt_iff_lt_mul (by decide), tableSize_mul_64 h6]
    exact ⟨fun hm => ⟨hm, Nat.lt_of_lt_of_le (mod64_lt m) (le_two_pow_of_ge6 h6)⟩, And.left⟩

theorem div64_lt_tableSize {n m : Nat} (hm : m < 2 ^ n) : m / 64 < tableSize n :=
  ((lt_two_pow_iff_word_pos n m).mp hm).1

theorem one_shl_bit {w : Nat} (s k : Nat) : ((1#w) <<< s).getLsbD k = (decide (k < w) && decide (k = s)) := by
  rw [← BitVec.twoPow_eq, BitVec.getLsbD_twoPow]
  by_cases h : k = s
  · subst h; rfl
  · rw [decide_eq_false h, decide_eq_false fun e : s = k => h e.symm, Bool.and_false, Bool.and_false]

theorem not_bit {w : Nat} (x : BitVec w) {v : Nat} (hv : v < w) : (~~~ x).getLsbD v = !x.getLsbD v := by
  rw [BitVec.getLsbD_not, decide_eq_true hv, Bool.true_and]

theorem ofNat_bit {w : Nat} (m : Nat) {v : Nat} (hv : v < w) : (BitVec.ofNat w m).getLsbD v = m.testBit v := by
  rw [BitVec.getLsbD_ofNat, decide_eq_true hv, Bool.true_and]

/-- `beq_iff_eq` / `bne_iff_ne` for words, by unfolding `==`: the search for `LawfulBEq (BitVec w)` is slow -/
theorem bv_beq_iff {w : Nat} (x y : BitVec w) : (x == y) = true ↔ x = y := decide_eq_true_iff

theorem bv_bne_iff {w : Nat} (x y : BitVec w) : (x != y) = true ↔ x ≠ y := by
  rw [bne, Bool.not_eq_true', ← Bool.not_eq_true, bv_beq_iff]

theorem bv_bne_eq_false_iff {w : Nat} (x y : BitVec w) : (x != y) = false ↔ x = y := by
  rw [← Bool.not_eq_true, bv_bne_iff, Decidable.not_not]

theorem and_one_ne_zero (x : W) : (x &&& 1#64 != 0#64) = x.getLsbD 0 := by
  rw [BitVec.and_one_eq_setWidth_ofBool_getLsbD]
  cases x.getLsbD 0 <;> rfl

theorem shr_and_one_ne_zero (x : W) (s : Nat) : ((x >>> s) &&& 1#64 != 0#64) = x.getLsbD s := by
  rw [and_one_ne_zero, BitVec.getLsbD_ushiftRight, Nat.add_zero]

theorem varMask_getLsbD (i : Nat) (hi : i < 6) (k : Nat) :
    (varMask i).getLsbD k = (decide (k < 64) && k.testBit i) := by
  by_cases hk : k < 64
  · rw [decide_eq_true hk, Bool.true_and]; exact varMask_bit ⟨i, hi⟩ ⟨k, hk⟩
  · rw [decide_eq_false hk, Bool.false_and]; exact BitVec.getLsbD_of_ge _ _ (Nat.le_of_not_lt hk)

theorem numVarsMask_toNat (n : Nat) : (numVarsMask n).toNat = 2 ^ (min (2 ^ n) 64) - 1 := by
  by_cases h : n ≤ 6
  · rw [numVarsMask, Nat.min_eq_left h]; exact numVarsMaskTab_toNat ⟨n, Nat.lt_succ_of_le h⟩
  · have h6 : 6 ≤ n := Nat.le_of_not_le h
    rw [numVarsMask, Nat.min_eq_right h6, Nat.min_eq_right (le_two_pow_of_ge6 h6)]; rfl

theorem numVarsMask_bit (n k : Nat) (hk : k < 64) : (numVarsMask n).getLsbD k = decide (k < 2 ^ n) := by
  rw [BitVec.getLsbD, numVarsMask_toNat, Nat.testBit_two_pow_sub_one]
  exact decide_eq_decide.mpr ⟨fun h => Nat.lt_of_lt_of_le h (Nat.min_le_left _ _), fun h => Nat.lt_min.mpr ⟨h, hk⟩⟩

theorem and_numVarsMask_bit (n : Nat) (x : W) {b : Nat} (hb : b < 64) :
    (x &&& numVarsMask n).getLsbD b = (x.getLsbD b && decide (b < 2 ^ n)) := by
  rw [BitVec.getLsbD_and, numVarsMask_bit n b hb]

theorem numVarsMask_ge6 (n : Nat) (h : 6 ≤ n) : numVarsMask n = ~~~ 0#64 := by
  unfold numVarsMask
  rw [Nat.min_eq_right h]
  decide

theorem bit_eq_getElem {t : Array W} {m : Nat} (h : m / 64 < t.size) :
    bit t m = (t[m / 64]).getLsbD (m % 64) := by
  rw [bit, Array.getElem?_eq_getElem h, Option.getD_some]

theorem bit_of_size_le {t : Array W} {m : Nat} (h : t.size ≤ m / 64) : bit t m = false := by
  rw [bit, Array.getElem?_eq_none h]; exact BitVec.getLsbD_zero

theorem bit_of_split {t : Array W} {m w b : Nat} (h : m / 64 = w ∧ m % 64 = b) :
    bit t m = (t[w]?.getD 0).getLsbD b := by
  rw [bit, h.1, h.2]

theorem bit_mapIdx (f : Nat → W → W) {t : Array W} {m : Nat} (h : m / 64 < t.size) :
    bit (t.mapIdx f) m = (f (m / 64) t[m / 64]).getLsbD (m % 64) := by
  rw [bit_eq_getElem (by rwa [Array.size_mapIdx]), Array.getElem_mapIdx]

/-- `t'` gathers from `t`: position `k` of its word `w` holds the bit of `t` at word `ψ w k`, position
    `κ w k` (`h`); `hψ` keeps sources of words outside the table outside, where both sides read `false`.
    Then assignment `m` of `t'` reads assignment `m'` of `t`, `m'` being given by its split `hm'`. -/
theorem bit_gather_src {t t' : Array W} {ψ κ : Nat → Nat → Nat} (hs : t'.size = t.size)
    (h : ∀ w k, w < t.size → k < 64 → (t'[w]?.getD 0).getLsbD k = (t[ψ w k]?.getD 0).getLsbD (κ w k))
    (hψ : ∀ w k, t.size ≤ w → t.size ≤ ψ w k)
    {m m' : Nat} (hm' : m' / 64 = ψ (m / 64) (m % 64) ∧ m' % 64 = κ (m / 64) (m % 64)) :
    bit t' m = bit t m' := by
  by_cases hm : m / 64 < t.size
  · rw [bit, bit, hm'.1, hm'.2, h _ _ hm (mod64_lt m)]
  · have hle := Nat.le_of_not_lt hm
    rw [bit_of_size_le (hs ▸ hle), bit_of_size_le (hm'.1 ▸ hψ _ _ hle)]

/-- the case of a word map: same word, position `φ k` -/
theorem bit_map_src {f : W → W} {φ : Nat → Nat} (hf : ∀ w k, k < 64 → (f w).getLsbD k = w.getLsbD (φ k))
    (t : Array W) {m m' : Nat} (hm' : m' / 64 = m / 64 ∧ m' % 64 = φ (m % 64)) :
    bit (t.map f) m = bit t m' :=
  bit_gather_src (ψ := fun w _ => w) (κ := fun _ k => φ k) Array.size_map
    (fun w k hw hk => by rw [Array.getElem?_map, Array.getElem?_eq_getElem hw]; exact hf _ k hk)
    (fun _ _ h => h) hm'

theorem WF.size {n : Nat} {t : Array W} (h : WF n t) : t.size = tableSize n := h.1

theorem WF_iff_mem (n : Nat) (t : Array W) :
    WF n t ↔ t.size = tableSize n ∧ ∀ w ∈ t.toList, w &&& ~~~ numVarsMask n = 0#64 := by
  refine and_congr_right fun _ => ⟨fun h w hw => ?_, fun h k hk => ?_⟩
  · obtain ⟨k, hk, rfl⟩ := List.getElem_of_mem hw
    simpa only [Array.getElem_toList, Array.length_toList ▸ hk, getElem?_pos, Option.getD_some, BitVec.ofNat_eq_ofNat]
      using h k (Array.length_toList ▸ hk)
  · simpa only [hk, getElem?_pos, Option.getD_some, BitVec.ofNat_eq_ofNat]
      using h t[k] (Array.mem_toList_iff.mpr (Array.getElem_mem hk))

theorem WF_iff_words (n : Nat) (t : Array W) : WF n t ↔ t.size = tableSize n ∧
    ∀ k, k < t.size → ∀ b, b < 64 → 2 ^ n ≤ b → (t[k]?.getD 0).getLsbD b = false := by
  refine and_congr_right fun _ => forall_congr' fun k => imp_congr_right fun _ => ?_
  show _ = 0#64 ↔ _
  rw [BitVec.eq_of_getLsbD_eq_iff]
  refine forall_congr' fun b => forall_congr' fun hb => ?_
  rw [BitVec.getLsbD_and, not_bit _ hb, numVarsMask_bit n b hb, BitVec.getLsbD_zero, ← Nat.not_lt]
  by_cases hlt : b < 2 ^ n <;> simp [hlt]

theorem WF_bit_ge {n : Nat} {t : Array W} (h : WF n t) {m : Nat} (hm : 2 ^ n ≤ m) : bit t m = false := by
  by_cases hw : m / 64 < t.size
  · refine ((WF_iff_words n t).mp h).2 _ hw _ (mod64_lt m) (Nat.le_of_not_lt fun hlt => ?_)
    exact Nat.not_lt.mpr hm ((lt_two_pow_iff_word_pos n m).mpr ⟨h.size ▸ hw, hlt⟩)
  · exact bit_of_size_le (Nat.le_of_not_lt hw)

theorem WF_iff_bit (n : Nat) (t : Array W) : WF n t ↔ t.size = tableSize n ∧ ∀ m, 2 ^ n ≤ m → bit t m = false := by
  refine ⟨fun h => ⟨h.size, fun _ => WF_bit_ge h⟩, fun ⟨hs, h⟩ => (WF_iff_words n t).mpr ⟨hs, fun k _ b hb hge => ?_⟩⟩
  rw [← bit_of_split (word_index k hb)]
  exact h _ (Nat.le_trans hge (Nat.le_add_left _ _))

theorem WF_of_size_ge6 {n : Nat} {t : Array W} (hs : t.size = tableSize n) (h6 : 6 ≤ n) : WF n t :=
  (WF_iff_words n t).mpr ⟨hs, fun _ _ _ hb hge =>
    absurd hb (Nat.not_lt.mpr (Nat.le_trans (le_two_pow_of_ge6 h6) hge))⟩

theorem toNat_lt_of_getLsbD {x : W} {n : Nat} (h : ∀ b, b < 64 → n ≤ b → x.getLsbD b = false) : x.toNat < 2 ^ n :=
  Nat.lt_pow_two_of_testBit _ fun b hb =>
    if h64 : b < 64 then h b h64 hb else BitVec.getLsbD_of_ge _ _ (Nat.le_of_not_lt h64)

theorem WF_word_lt {n : Nat} {t : Array W} (h : WF n t) {w : W} (hw : w ∈ t.toList) :
    w.toNat < 2 ^ (min (2 ^ n) 64) := by
  obtain ⟨k, hk, rfl⟩ := List.getElem_of_mem hw
  have hk' : k < t.size := Array.length_toList ▸ hk
  refine toNat_lt_of_getLsbD fun b h64 hb => ?_
  have := ((WF_iff_words n t).mp h).2 k hk' b h64
    (Nat.le_of_not_lt fun hlt => Nat.not_lt.mpr hb (Nat.lt_min.mpr ⟨hlt, h64⟩))
  rwa [Array.getElem?_eq_getElem hk', Option.getD_some] at this

theorem WF_of_bit_src {n : Nat} {t t' : Array W} (h : WF n t) (hs : t'.size = t.size) {Φ : Nat → Nat}
    (hb : ∀ m, bit t' m = bit t (Φ m)) (hΦ : ∀ m, 2 ^ n ≤ m → 2 ^ n ≤ Φ m) : WF n t' :=
  (WF_iff_bit n t').mpr ⟨hs.trans h.size, fun m hm => by rw [hb, WF_bit_ge h (hΦ m hm)]⟩

/-- The lemma every constructor goes through (`fill_*`, NOT, `From<uN>`): a table whose word `k` is some
    `g k` cut by the mask is well formed and has the value `g (m / 64) (m % 64)` on assignment `m`. -/
theorem masked_words {n : Nat} {r : Array W} (hs : r.size = tableSize n) (g : Nat → Nat → Bool)
    (h : ∀ k (hk : k < r.size) b, b < 64 → r[k].getLsbD b = (g k b && decide (b < 2 ^ n))) :
    WF n r ∧ ∀ m, m < 2 ^ n → bit r m = g (m / 64) (m % 64) := by
  constructor
  · refine (WF_iff_words n r).mpr ⟨hs, fun k hk b hb hge => ?_⟩
    rw [Array.getElem?_eq_getElem hk, Option.getD_some, h k hk b hb, decide_eq_false (Nat.not_lt.mpr hge),
      Bool.and_false]
  · intro m hm
    have hw : m / 64 < r.size := hs ▸ div64_lt_tableSize hm
    rw [bit_eq_getElem hw, h _ hw _ (mod64_lt m), decide_eq_true (Nat.lt_of_le_of_lt (Nat.mod_le m 64) hm),
      Bool.and_true]

end VoluteModel
