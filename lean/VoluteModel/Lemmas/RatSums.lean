/-!
# Sums of rationals over a list

Core has these for `Nat` and `Int` only; names follow its `_nat` / `_int` suffix.
-/

namespace VoluteModel

theorem add_le_add_rat {a b c d : Rat} (h1 : a ≤ b) (h2 : c ≤ d) : a + c ≤ b + d :=
  Rat.le_trans (Rat.add_le_add_right.mpr h1) (Rat.add_le_add_left.mpr h2)

theorem sum_le_sum_rat {α} {l : List α} {f g : α → Rat} (h : ∀ x ∈ l, f x ≤ g x) : (l.map f).sum ≤ (l.map g).sum := by
  induction l with
  | nil => exact Rat.le_refl
  | cons a l ih => exact add_le_add_rat (h a (by simp)) (ih fun x hx => h x (by simp [hx]))

theorem sum_nonneg_rat {α} {l : List α} {f : α → Rat} (h : ∀ x ∈ l, 0 ≤ f x) : 0 ≤ (l.map f).sum := by
  induction l with
  | nil => exact Rat.le_refl
  | cons a l ih => exact Rat.add_nonneg (h a (by simp)) (ih fun x hx => h x (by simp [hx]))

theorem sum_filter_rat {α} (l : List α) (p : α → Bool) (w : α → Rat) :
    (l.map (fun a => if p a then w a else 0)).sum = ((l.filter p).map w).sum := by
  induction l with
  | nil => rfl
  | cons a l ih =>
    rw [List.map_cons, List.sum_cons, ih, List.filter_cons]
    cases p a <;> simp [Rat.zero_add]

theorem sum_perm_rat {α} {l1 l2 : List α} (h : l1.Perm l2) (w : α → Rat) : (l1.map w).sum = (l2.map w).sum :=
  (h.map w).foldr_eq' (f := (· + ·)) (fun _ _ _ _ _ => Rat.add_left_comm ..) 0

theorem sum_le_of_nodup_subset_rat {α} [DecidableEq α] {l1 l2 : List α} {w : α → Rat} (hw : ∀ x ∈ l2, 0 ≤ w x)
    (hnd : l1.Nodup) (hsub : ∀ x ∈ l1, x ∈ l2) : (l1.map w).sum ≤ (l2.map w).sum := by
  induction l1 generalizing l2 with
  | nil => exact sum_nonneg_rat hw
  | cons a l1 ih =>
    have hnd' := List.nodup_cons.mp hnd
    rw [sum_perm_rat (List.perm_cons_erase (hsub a (by simp))) w]
    refine Rat.add_le_add_left.mpr (ih (l2 := l2.erase a) (fun x hx => hw x (List.mem_of_mem_erase hx)) hnd'.2 fun x hx => ?_)
    exact (List.mem_erase_of_ne fun (e : x = a) => hnd'.1 (e ▸ hx)).mpr (hsub x (by simp [hx]))

end VoluteModel
