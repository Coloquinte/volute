/-!
# Arithmetic of single bits of natural numbers

Complementing bit `j` of `k` is `k ± 2^j`; an assignment index `m` splits into the word index `m / 64`
and the position `m % 64`; every variable transform of operations.rs acts on assignments through one
of two index maps, `condFlip` (flip, cofactors) and `exch` (swap), and each of them respects the split.
Also, for several files, the lowest digit of a number (`add_mul_lt` ..).
-/

namespace VoluteModel

theorem xor_two_pow_of_clear (k j : Nat) (h : k.testBit j = false) : k ^^^ 2^j = k + 2^j := by
  have even : ∀ q, q % 2 = 0 → q ^^^ 1 = q + 1 := fun q hq => by
    have hd : (q ^^^ 1) / 2 ^ 1 = q / 2 ^ 1 := by rw [Nat.xor_div_two_pow]; exact Nat.xor_zero _
    have hm : (q ^^^ 1) % 2 ^ 1 = 1 := by rw [Nat.xor_mod_two_pow, Nat.pow_one, hq]; rfl
    have e := Nat.div_add_mod q (2 ^ 1)
    rw [Nat.pow_one, hq, Nat.add_zero] at e
    rw [← Nat.div_add_mod (q ^^^ 1) (2 ^ 1), hd, hm, Nat.pow_one, e]
  have hq : (k / 2^j) % 2 = 0 := by
    rw [Nat.testBit_eq_decide_div_mod_eq, decide_eq_false_iff_not] at h
    exact (Nat.mod_two_eq_zero_or_one _).resolve_right h
  -- on division by `2^j` both sides have the quotient `k / 2^j + 1` and the remainder `k % 2^j`
  have e1 : (k ^^^ 2^j) / 2^j = k / 2^j + 1 := by
    rw [Nat.xor_div_two_pow, Nat.div_self (Nat.two_pow_pos j), even _ hq]
  have e2 : (k ^^^ 2^j) % 2^j = k % 2^j := by
    rw [Nat.xor_mod_two_pow, Nat.mod_self, Nat.xor_zero]
  rw [← Nat.div_add_mod (k ^^^ 2^j) (2^j), e1, e2, Nat.mul_add, Nat.mul_one, Nat.add_right_comm, Nat.div_add_mod]

theorem testBit_xor_two_pow (k j i : Nat) : (k ^^^ 2^j).testBit i = (k.testBit i != decide (j = i)) := by
  rw [Nat.testBit_xor, Nat.testBit_two_pow]

theorem xor_xor_cancel (a b : Nat) : a ^^^ b ^^^ b = a := by rw [Nat.xor_assoc, Nat.xor_self, Nat.xor_zero]

theorem eq_of_xor_eq_zero {a b : Nat} (h : a ^^^ b = 0) : a = b := by
  rw [← xor_xor_cancel a b, h, Nat.zero_xor]

theorem xor_two_pow_of_set (k j : Nat) (h : k.testBit j = true) : k ^^^ 2^j = k - 2^j ∧ 2^j ≤ k := by
  have := xor_two_pow_of_clear (k ^^^ 2^j) j (by simp [h])
  rw [xor_xor_cancel] at this
  exact ⟨Nat.eq_sub_of_add_eq this.symm, this ▸ Nat.le_add_left _ _⟩

theorem testBit_sub_two_pow {k i : Nat} (h : 2 ^ i ≤ k) : (k - 2 ^ i).testBit i = !k.testBit i := by
  have := Nat.testBit_two_pow_add_eq (k - 2 ^ i) i
  rw [Nat.add_sub_cancel' h] at this
  rw [this, Bool.not_not]

theorem testBit_two_pow_sub_one_sub {x n : Nat} (h : x < 2 ^ n) (i : Nat) :
    (2 ^ n - 1 - x).testBit i = (decide (i < n) && !x.testBit i) := by
  rw [Nat.sub_sub, Nat.add_comm 1]
  exact Nat.testBit_two_pow_sub_succ h i

theorem and_two_pow (k j : Nat) : k &&& 2^j = if k.testBit j then 2^j else 0 := by
  apply Nat.eq_of_testBit_eq
  intro i
  rw [Nat.testBit_and, Nat.testBit_two_pow, apply_ite (Nat.testBit · i), Nat.testBit_two_pow, Nat.zero_testBit]
  by_cases hji : j = i
  · subst hji; cases k.testBit j <;> rfl
  · rw [decide_eq_false hji, Bool.and_false, ite_self]

/-- the guards of the pair loops: `k & stride == 0` -/
theorem and_two_pow_eq_zero (k j : Nat) : (k &&& 2^j == 0) = !k.testBit j := by
  rw [and_two_pow]
  cases k.testBit j
  · rfl
  · exact beq_false_of_ne (Nat.ne_of_gt (Nat.two_pow_pos j))

theorem lt_of_testBit {x n i : Nat} (hx : x < 2 ^ n) (h : x.testBit i = true) : i < n :=
  (Nat.pow_lt_pow_iff_right (by decide)).mp (Nat.lt_of_le_of_lt (Nat.ge_two_pow_of_testBit h) hx)

theorem eq_iff_testBit_lt {n x y : Nat} (hx : x < 2 ^ n) (hy : y < 2 ^ n) :
    x = y ↔ ∀ i, i < n → x.testBit i = y.testBit i := by
  refine ⟨fun h i _ => by rw [h], fun h => Nat.eq_of_testBit_eq fun i => ?_⟩
  by_cases hi : i < n
  · exact h i hi
  · rw [Bool.eq_false_iff.mpr fun hb => hi (lt_of_testBit hx hb), Bool.eq_false_iff.mpr fun hb => hi (lt_of_testBit hy hb)]

theorem xor_lt_two_pow_of_lt {m i n : Nat} (hm : m < 2 ^ n) (hi : i < n) : m ^^^ 2 ^ i < 2 ^ n :=
  Nat.xor_lt_two_pow hm (Nat.pow_lt_pow_right (by decide) hi)

theorem le_xor_two_pow_of_le {b i n : Nat} (hi : i < n) (hb : 2 ^ n ≤ b) : 2 ^ n ≤ b ^^^ 2 ^ i :=
  Nat.le_of_not_lt fun h => Nat.not_lt.mpr hb (xor_xor_cancel b _ ▸ xor_lt_two_pow_of_lt h hi)

/-- `r + M * d` with `r < M` is a digit `r` in base `M` under the number `d`: bounds, order and equality
    go digit by digit, the high part first -/
theorem add_mul_lt {M r d L : Nat} (hr : r < M) (hd : d < L) : r + M * d < M * L :=
  calc r + M * d < M + M * d := Nat.add_lt_add_right hr _
    _ = M * (d + 1) := by rw [Nat.mul_succ, Nat.add_comm]
    _ ≤ M * L := Nat.mul_le_mul_left M hd

theorem compare_add_mul {M r s : Nat} (hr : r < M) (hs : s < M) (d e : Nat) :
    compare (r + M * d) (s + M * e) = (compare d e).then (compare r s) := by
  rcases Nat.lt_trichotomy d e with h | rfl | h
  · rw [Nat.compare_eq_lt.mpr h, Nat.compare_eq_lt.mpr (Nat.lt_of_lt_of_le (add_mul_lt hr h) (Nat.le_add_left _ _))]; rfl
  · rw [Nat.compare_eq_eq.mpr rfl]
    simp only [Nat.compare_eq_ite_lt, Nat.add_lt_add_iff_right, Ordering.then]
  · rw [Nat.compare_eq_gt.mpr h, Nat.compare_eq_gt.mpr (Nat.lt_of_lt_of_le (add_mul_lt hs h) (Nat.le_add_left _ _))]; rfl

theorem add_mul_inj {M r s d e : Nat} (hr : r < M) (hs : s < M) (h : r + M * d = s + M * e) : r = s ∧ d = e := by
  have := compare_add_mul hr hs d e
  rw [Nat.compare_eq_eq.mpr h] at this
  exact (Ordering.then_eq_eq.mp this.symm).symm.imp Nat.compare_eq_eq.mp Nat.compare_eq_eq.mp

theorem two_pow_le_64 {n : Nat} (h : n ≤ 6) : 2 ^ n ≤ 64 :=
  (Nat.pow_le_pow_right (by decide) h : 2 ^ n ≤ 2 ^ 6)

theorem le_two_pow_of_ge6 {n : Nat} (h : 6 ≤ n) : 64 ≤ 2 ^ n :=
  (Nat.pow_le_pow_right (by decide) h : 2 ^ 6 ≤ 2 ^ n)

theorem mod64_lt (m : Nat) : m % 64 < 64 := Nat.mod_lt _ (by decide)

theorem word_index (w : Nat) {b : Nat} (hb : b < 64) : (64 * w + b) / 64 = w ∧ (64 * w + b) % 64 = b := by
  rw [Nat.mul_add_div (by decide), Nat.div_eq_of_lt hb, Nat.mul_add_mod, Nat.mod_eq_of_lt hb]
  exact ⟨rfl, rfl⟩

/-- the index arithmetic of `get_bit` / `set_bit` / `unset_bit`: `ind >> 6` and `ind & 0x3f` -/
theorem shr6 (m : Nat) : m >>> 6 = m / 64 := by rw [Nat.shiftRight_eq_div_pow]

theorem and63 (m : Nat) : m &&& 0x3f = m % 64 := Nat.and_two_pow_sub_one_eq_mod m 6

theorem decide_mod64_eq_of_div64_eq {m k : Nat} (hw : m / 64 = k / 64) : decide (k % 64 = m % 64) = decide (k = m) :=
  decide_eq_decide.mpr ⟨Nat.ext_div_mod hw.symm, fun h => by rw [h]⟩

theorem testBit_mod64 {i : Nat} (hi : i < 6) (m : Nat) : (m % 64).testBit i = m.testBit i := by
  rw [show (64 : Nat) = 2 ^ 6 from rfl, Nat.testBit_mod_two_pow, decide_eq_true hi, Bool.true_and]

theorem testBit_div64 (m j : Nat) : (m / 64).testBit j = m.testBit (6 + j) := by
  rw [Nat.add_comm]; exact Nat.testBit_div_two_pow (n := 6) m j

theorem xor_two_pow_lo {i : Nat} (hi : i < 6) (m : Nat) :
    (m ^^^ 2 ^ i) / 64 = m / 64 ∧ (m ^^^ 2 ^ i) % 64 = m % 64 ^^^ 2 ^ i := by
  have hlt : 2 ^ i < 2 ^ 6 := Nat.pow_lt_pow_right (by decide) hi
  constructor
  · rw [show (64 : Nat) = 2 ^ 6 from rfl, Nat.xor_div_two_pow, Nat.div_eq_of_lt hlt, Nat.xor_zero]
  · rw [show (64 : Nat) = 2 ^ 6 from rfl, Nat.xor_mod_two_pow, Nat.mod_eq_of_lt hlt]

theorem xor_two_pow_hi (m j : Nat) :
    (m ^^^ 2 ^ (6 + j)) / 64 = m / 64 ^^^ 2 ^ j ∧ (m ^^^ 2 ^ (6 + j)) % 64 = m % 64 := by
  constructor
  · rw [show (64 : Nat) = 2 ^ 6 from rfl, Nat.xor_div_two_pow, Nat.pow_add, Nat.mul_div_cancel_left _ (by decide)]
  · rw [show (64 : Nat) = 2 ^ 6 from rfl, Nat.xor_mod_two_pow, Nat.pow_add, Nat.mul_mod_right, Nat.xor_zero]

/-- The index map of `flip_inplace` and of the two cofactors: complement bit `i` of `m` where `c` holds
    of it.  `c = id` clears the bit, `c = not` sets it, `c = fun _ => true` flips it. -/
def condFlip (c : Bool → Bool) (i m : Nat) : Nat := if c (m.testBit i) then m ^^^ 2 ^ i else m

theorem condFlip_id (i m : Nat) : condFlip id i m = if m.testBit i then m ^^^ 2 ^ i else m := rfl

theorem condFlip_not (i m : Nat) : condFlip not i m = if m.testBit i then m else m ^^^ 2 ^ i := by
  unfold condFlip
  cases m.testBit i <;> rfl

theorem condFlip_testBit (c : Bool → Bool) (i m q : Nat) :
    (condFlip c i m).testBit q = if q = i then (m.testBit i != c (m.testBit i)) else m.testBit q := by
  unfold condFlip
  cases hc : c (m.testBit i)
  · rw [if_neg Bool.false_ne_true, Bool.bne_false]
    split
    · next h => rw [h]
    · rfl
  · rw [if_pos rfl, testBit_xor_two_pow, Bool.bne_true]
    split
    · next h => rw [h, decide_eq_true rfl, Bool.bne_true]
    · next h => rw [decide_eq_false fun e => h e.symm, Bool.bne_false]

theorem condFlip_id_testBit_self (i m : Nat) : (condFlip id i m).testBit i = false := by
  rw [condFlip_testBit, if_pos rfl]; exact bne_self_eq_false _

/-- of the pair `{m, m ^^^ 2^i}`, `condFlip id i m` is the member with bit `i` clear (the leader of the
    pair loops), `condFlip not i m` its partner -/
theorem condFlip_not_eq_add (i m : Nat) : condFlip not i m = condFlip id i m + 2 ^ i := by
  rw [condFlip_not, condFlip_id]
  cases h : m.testBit i
  · exact xor_two_pow_of_clear m i h
  · obtain ⟨e, hle⟩ := xor_two_pow_of_set m i h
    rw [if_pos rfl, if_pos rfl, e, Nat.sub_add_cancel hle]

theorem condFlip_split_lo (c : Bool → Bool) {i : Nat} (hi : i < 6) (m : Nat) :
    condFlip c i m / 64 = m / 64 ∧ condFlip c i m % 64 = condFlip c i (m % 64) := by
  unfold condFlip
  rw [testBit_mod64 hi m]
  split
  · exact xor_two_pow_lo hi m
  · exact ⟨rfl, rfl⟩

theorem condFlip_split_hi (c : Bool → Bool) (j m : Nat) :
    condFlip c (6 + j) m / 64 = condFlip c j (m / 64) ∧ condFlip c (6 + j) m % 64 = m % 64 := by
  unfold condFlip
  rw [testBit_div64]
  split
  · exact xor_two_pow_hi m j
  · exact ⟨rfl, rfl⟩

theorem condFlip_lt (c : Bool → Bool) {i n m : Nat} (hi : i < n) (hm : m < 2 ^ n) : condFlip c i m < 2 ^ n := by
  unfold condFlip
  split
  · exact xor_lt_two_pow_of_lt hm hi
  · exact hm

theorem condFlip_ge (c : Bool → Bool) {i n m : Nat} (hi : i < n) (hm : 2 ^ n ≤ m) : 2 ^ n ≤ condFlip c i m := by
  unfold condFlip
  split
  · exact le_xor_two_pow_of_le hi hm
  · exact hm

/-- `hc` holds of `id` and `not` (the cofactors), not of the flip `fun _ => true`, for which this is false -/
theorem condFlip_xor (c : Bool → Bool) (hc : ∀ b, c (!b) = !c b) (i m : Nat) :
    condFlip c i (m ^^^ 2 ^ i) = condFlip c i m := by
  unfold condFlip
  rw [testBit_xor_two_pow, decide_eq_true rfl, Bool.bne_true, hc]
  cases c (m.testBit i)
  · exact xor_xor_cancel m _
  · rfl

/-- The index map of `swap_inplace`: exchange bits `i` and `j` of `k`. -/
def exch (i j k : Nat) : Nat :=
  if k.testBit i = k.testBit j then k else k ^^^ (2^i ^^^ 2^j)

theorem exch_of_eq {i j k : Nat} (h : k.testBit i = k.testBit j) : exch i j k = k := if_pos h

theorem exch_of_ne {i j k : Nat} (h : k.testBit i ≠ k.testBit j) : exch i j k = k ^^^ (2 ^ i ^^^ 2 ^ j) := if_neg h

theorem move_bit (k a b : Nat) (ha : k.testBit a = true) (hb : k.testBit b = false) :
    k - 2 ^ a + 2 ^ b = k ^^^ (2 ^ a ^^^ 2 ^ b) ∧ 2 ^ a ≤ k := by
  obtain ⟨e1, hle⟩ := xor_two_pow_of_set k a ha
  have hab : a ≠ b := by intro h; subst h; rw [ha] at hb; cases hb
  have hb1 : (k ^^^ 2 ^ a).testBit b = false := by
    rw [testBit_xor_two_pow, hb]; simp [hab]
  have e2 := xor_two_pow_of_clear (k ^^^ 2 ^ a) b hb1
  refine ⟨?_, hle⟩
  rw [← e1, ← e2, Nat.xor_assoc]

theorem exch_comm (i j k : Nat) : exch i j k = exch j i k := by
  simp only [exch, eq_comm (a := k.testBit i), Nat.xor_comm (2 ^ i)]

theorem exch_self (i k : Nat) : exch i i k = k := exch_of_eq rfl

theorem exch_testBit (i j k q : Nat) : (exch i j k).testBit q =
    if q = i then k.testBit j else if q = j then k.testBit i else k.testBit q := by
  unfold exch
  split
  · next h =>
    split
    · next h1 => rw [h1, h]
    · split
      · next h2 => rw [h2, h]
      · rfl
  · next h =>
    have hj : k.testBit j = !k.testBit i := by
      cases hi : k.testBit i <;> cases hj : k.testBit j <;> simp_all
    rw [Nat.testBit_xor, Nat.testBit_xor, Nat.testBit_two_pow, Nat.testBit_two_pow]
    by_cases h1 : q = i
    · subst h1
      have : j ≠ q := fun e => h (by rw [e])
      simp [this, hj]
    · by_cases h2 : q = j
      · subst h2; simp [Ne.symm h1, h1, hj]
      · simp [h1, h2, Ne.symm h1, Ne.symm h2]

theorem exch_exch (i j k : Nat) : exch i j (exch i j k) = k := by
  apply Nat.eq_of_testBit_eq
  intro q
  simp only [exch_testBit]
  by_cases h1 : q = i
  · subst h1; simp; intro h; subst h; rfl
  · by_cases h2 : q = j
    · subst h2; simp [h1]
    · simp [h1, h2]

theorem exch_lt {i j n k : Nat} (hi : i < n) (hj : j < n) (hk : k < 2 ^ n) : exch i j k < 2 ^ n := by
  unfold exch
  split
  · exact hk
  · apply Nat.xor_lt_two_pow hk
    exact Nat.xor_lt_two_pow (Nat.pow_lt_pow_right (by decide) hi) (Nat.pow_lt_pow_right (by decide) hj)

theorem exch_ge {i j n b : Nat} (hi : i < n) (hj : j < n) (hb : 2 ^ n ≤ b) : 2 ^ n ≤ exch i j b :=
  Nat.le_of_not_lt fun h => Nat.not_lt.mpr hb (exch_exch i j b ▸ exch_lt hi hj h)

theorem exch_of_clear_set {i j k : Nat} (hji : j < i) (hi : k.testBit i = false) (hj : k.testBit j = true) :
    exch i j k = k + (2 ^ i - 2 ^ j) := by
  obtain ⟨e, hle⟩ := move_bit k j i hj hi
  have hlt : 2 ^ j ≤ 2 ^ i := Nat.pow_le_pow_right (by decide) (Nat.le_of_lt hji)
  rw [exch_of_ne (by rw [hi, hj]; decide), Nat.xor_comm (2 ^ i), ← e, ← Nat.sub_add_comm hle, Nat.add_sub_assoc hlt]

theorem exch_of_set_clear {i j k : Nat} (hji : j < i) (hi : k.testBit i = true) (hj : k.testBit j = false) :
    exch i j k = k - (2 ^ i - 2 ^ j) ∧ 2 ^ i - 2 ^ j ≤ k := by
  obtain ⟨e, hle⟩ := move_bit k i j hi hj
  have hlt : 2 ^ j ≤ 2 ^ i := Nat.pow_le_pow_right (by decide) (Nat.le_of_lt hji)
  refine ⟨?_, Nat.le_trans (Nat.sub_le _ _) hle⟩
  rw [exch_of_ne (by rw [hi, hj]; decide), ← e, ← Nat.sub_add_comm hle,
    ← Nat.add_sub_add_right k (2 ^ j) (2 ^ i - 2 ^ j), Nat.sub_add_cancel hlt]

theorem exch_split_lo {i j : Nat} (hi : i < 6) (hj : j < 6) (m : Nat) :
    exch i j m / 64 = m / 64 ∧ exch i j m % 64 = exch i j (m % 64) := by
  unfold exch
  rw [testBit_mod64 hi m, testBit_mod64 hj m]
  split
  · exact ⟨rfl, rfl⟩
  · rw [← Nat.xor_assoc, ← Nat.xor_assoc, (xor_two_pow_lo hj _).1, (xor_two_pow_lo hj _).2,
      (xor_two_pow_lo hi _).1, (xor_two_pow_lo hi _).2]
    exact ⟨rfl, rfl⟩

/-- bit `i'` of the word index changes places with bit `j` of the position: where they differ both are
    complemented -/
theorem exch_split_mixed (i' : Nat) {j : Nat} (hj : j < 6) (m : Nat) :
    exch (6 + i') j m / 64 = (if (m / 64).testBit i' = (m % 64).testBit j then m / 64 else m / 64 ^^^ 2 ^ i') ∧
    exch (6 + i') j m % 64 = (if (m / 64).testBit i' = (m % 64).testBit j then m % 64 else m % 64 ^^^ 2 ^ j) := by
  unfold exch
  rw [testBit_mod64 hj m, testBit_div64]
  split
  · exact ⟨rfl, rfl⟩
  · rw [← Nat.xor_assoc, (xor_two_pow_lo hj _).1, (xor_two_pow_lo hj _).2,
      (xor_two_pow_hi _ _).1, (xor_two_pow_hi _ _).2]
    exact ⟨rfl, rfl⟩

theorem exch_split_hi (i' j' m : Nat) :
    exch (6 + i') (6 + j') m / 64 = exch i' j' (m / 64) ∧ exch (6 + i') (6 + j') m % 64 = m % 64 := by
  unfold exch
  rw [testBit_div64, testBit_div64]
  split
  · exact ⟨rfl, rfl⟩
  · rw [← Nat.xor_assoc, ← Nat.xor_assoc, (xor_two_pow_hi _ _).1, (xor_two_pow_hi _ _).2,
      (xor_two_pow_hi _ _).1, (xor_two_pow_hi _ _).2]
    exact ⟨rfl, rfl⟩

end VoluteModel
