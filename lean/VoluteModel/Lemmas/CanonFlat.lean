import VoluteModel.Model.Canon
import VoluteModel.Lemmas.Walk
import VoluteModel.Lemmas.Cmp

/-!
# The canonization walks as one flat list of macro-steps

A macro-step is a list of elementary transforms followed by one comparison.  The walks
`*_canonization_ind` of P, N and NPN are one fold (`mwalk`) over three such lists and the loops of
`*_canonization_res` one replay (`replay`) over them; everything else is proved once, for a list.
-/

namespace VoluteModel

/-- `swap_adjacent_inplace(s)`, `flip_inplace(f)`, `not_inplace()` -/
inductive Elem where
  | swap (s : Nat) | flip (f : Nat) | neg
deriving DecidableEq, Repr

def applyElem (n : Nat) (t : Array W) : Elem → Array W
  | .swap s => swapAdjacentInplace t s
  | .flip f => flipInplace t f
  | .neg => notInplace n t

def applyElems (n : Nat) (t : Array W) (es : List Elem) : Array W := es.foldl (applyElem n) t

/-- some transforms, then the `if cmp(table, best).is_lt() { .. } ind += 1` -/
def mstep (n : Nat) (s : WalkState) (es : List Elem) : WalkState :=
  cmpStep { s with table := applyElems n s.table es }

def mwalk (n : Nat) (s : WalkState) (ms : List (List Elem)) : WalkState := ms.foldl (mstep n) s

theorem mwalk_cons (n : Nat) (s : WalkState) (m : List Elem) (ms : List (List Elem)) :
    mwalk n s (m :: ms) = mwalk n (mstep n s m) ms := rfl

/-! P compares after every swap; N after `flip; not` and after the second `not`; NPN runs the N block
after every swap and first compares after `swap; flip; not`, so a block is not the swap followed by the
N list.  With no flips the source swaps and never compares: `macroBlock s [] = []` cannot carry the
swap, hence `flips ≠ []` in the NPN lemmas. -/

def macroP (swaps : List Nat) : List (List Elem) := swaps.map (fun s => [Elem.swap s])
def macroN (flips : List Nat) : List (List Elem) := flips.flatMap (fun f => [[Elem.flip f, Elem.neg], [Elem.neg]])
def macroBlock (s : Nat) : List Nat → List (List Elem)
  | [] => []
  | f0 :: fs => [Elem.swap s, Elem.flip f0, Elem.neg] :: [Elem.neg] :: macroN fs
def macroNPN (swaps flips : List Nat) : List (List Elem) := swaps.flatMap (fun s => macroBlock s flips)

theorem macroN_cons (f : Nat) (fs : List Nat) :
    macroN (f :: fs) = [Elem.flip f, Elem.neg] :: [Elem.neg] :: macroN fs := rfl

theorem macroNPN_cons (s : Nat) (ss flips : List Nat) :
    macroNPN (s :: ss) flips = macroBlock s flips ++ macroNPN ss flips := rfl

theorem macroP_length (swaps : List Nat) : (macroP swaps).length = swaps.length := List.length_map _

theorem macroN_length (flips : List Nat) : (macroN flips).length = 2 * flips.length := by
  induction flips with
  | nil => rfl
  | cons f fs ih => rw [macroN_cons, List.length_cons, List.length_cons, List.length_cons, ih, Nat.mul_succ]

theorem macroBlock_length (s : Nat) (flips : List Nat) : (macroBlock s flips).length = 2 * flips.length := by
  rw [← macroN_length]
  cases flips <;> rfl

theorem macroNPN_length (swaps flips : List Nat) :
    (macroNPN swaps flips).length = 2 * swaps.length * flips.length := by
  induction swaps with
  | nil => rw [List.length_nil, Nat.mul_zero, Nat.zero_mul]; rfl
  | cons s ss ih =>
    rw [macroNPN_cons, List.length_append, ih, macroBlock_length, List.length_cons, Nat.mul_succ, Nat.add_mul,
      Nat.add_comm]

theorem macroP_flatten (swaps : List Nat) : (macroP swaps).flatten = swaps.map Elem.swap := by
  rw [macroP, ← List.flatMap_def, ← List.map_eq_flatMap]

theorem macroBlock_flatten (s : Nat) (flips : List Nat) (h : flips ≠ []) :
    (macroBlock s flips).flatten = Elem.swap s :: (macroN flips).flatten := by
  cases flips with
  | nil => exact absurd rfl h
  | cons f fs => rfl

theorem macroBlock_take_flatten (s : Nat) (flips : List Nat) (h : flips ≠ []) (k : Nat) :
    ((macroBlock s flips).take (k + 1)).flatten = Elem.swap s :: ((macroN flips).take (k + 1)).flatten := by
  cases flips with
  | nil => exact absurd rfl h
  | cons f fs => rfl

theorem cmpStep_table (s : WalkState) : (cmpStep s).table = s.table := by
  unfold cmpStep; split <;> rfl

theorem flipStep_eq (n : Nat) (s : WalkState) (f : Nat) :
    notTwice n { s with table := flipInplace s.table f } = mstep n (mstep n s [Elem.flip f, Elem.neg]) [Elem.neg] := by
  simp only [notTwice, List.range_succ, List.range_zero, List.nil_append, List.cons_append, List.foldl_cons,
    List.foldl_nil, mstep, applyElems, applyElem]

theorem pCanonInd_eq (n : Nat) (t : Array W) (swaps : List Nat) :
    pCanonInd t swaps = mwalk n ⟨t, t, (macroP swaps).length - 1, 0⟩ (macroP swaps) := by
  rw [macroP_length]
  unfold pCanonInd mwalk macroP
  rw [List.foldl_map]
  rfl

theorem nFold_eq (n : Nat) (flips : List Nat) (s : WalkState) :
    flips.foldl (fun s flip => notTwice n { s with table := flipInplace s.table flip }) s = mwalk n s (macroN flips) := by
  induction flips generalizing s with
  | nil => rfl
  | cons f fs ih => rw [List.foldl_cons, flipStep_eq, ih, macroN_cons, mwalk_cons, mwalk_cons]

theorem nCanonInd_eq (n : Nat) (t : Array W) (flips : List Nat) :
    nCanonInd n t flips = mwalk n ⟨t, t, (macroN flips).length - 1, 0⟩ (macroN flips) :=
  macroN_length flips ▸ nFold_eq n flips _

theorem npnCanonInd_eq (n : Nat) (t : Array W) (swaps flips : List Nat) (h : flips ≠ []) :
    npnCanonInd n t swaps flips =
      mwalk n ⟨t, t, (macroNPN swaps flips).length - 1, 0⟩ (macroNPN swaps flips) := by
  rw [macroNPN_length]
  unfold npnCanonInd mwalk macroNPN
  rw [List.foldl_flatMap]
  congr 1
  funext s sw
  cases flips with
  | nil => exact absurd rfl h
  | cons f fs => rw [List.foldl_cons, flipStep_eq, nFold_eq, macroBlock, List.foldl_cons, List.foldl_cons]; rfl

/-- `cmp(a, b).is_lt()`, the order handed to `walkAux` -/
def ltT (a b : Array W) : Bool := cmpTables a b == .lt

theorem ltT_trans (a b c : Array W) (h1 : ltT a b = true) (h2 : ltT b c = true) : ltT a c = true := by
  rw [ltT, beq_iff_eq] at *
  exact lexCmp_lt_trans _ _ _ h1 h2

theorem ltT_irrefl (a : Array W) : ltT a a = false := by
  rw [ltT, cmpTables, lexCmp_self]; rfl

theorem ltT_asymm {a b : Array W} (h : ltT a b = true) : ltT b a = false := by
  cases hb : ltT b a with
  | false => rfl
  | true => rw [← ltT_irrefl a, ltT_trans a b a h hb]

theorem ltT_false_iff (a b : Array W) (h : a.size = b.size) :
    ltT a b = false ↔ toNatLE b.toList ≤ toNatLE a.toList := by
  rw [ltT, cmpTables_eq a b h, ← Nat.not_lt, ← Nat.compare_eq_lt]
  cases compare (toNatLE a.toList) (toNatLE b.toList) <;> decide

theorem mwalk_eq (n : Nat) (ms : List (List Elem)) (s : WalkState) :
    mwalk n s ms = ⟨stateAt (applyElems n) s.table ms ms.length,
      (walkAux (applyElems n) ltT s.table s.best s.bestInd s.ind ms).1,
      (walkAux (applyElems n) ltT s.table s.best s.bestInd s.ind ms).2, s.ind + ms.length⟩ := by
  induction ms generalizing s with
  | nil => rfl
  | cons m ms ih =>
    rw [mwalk_cons, ih, walkAux, List.length_cons, stateAt_cons, Nat.add_comm ms.length, ← Nat.add_assoc]
    unfold mstep cmpStep ltT
    split <;> rfl

/-- one transform on `(perm, cur_flip)` in the loops of `*_canonization_res` -/
def rstepE (n : Nat) (st : Array Nat × Nat) : Elem → Array Nat × Nat
  | .swap s => (st.1.swapIfInBounds s (s + 1), st.2)
  | .flip f => (st.1, st.2 ^^^ (1 <<< f))
  | .neg => (st.1, st.2 ^^^ (1 <<< n))

def certAfter (n : Nat) (st : Array Nat × Nat) (es : List Elem) : Array Nat × Nat := es.foldl (rstepE n) st

/-- the certificate after the first `k` macro-steps -/
def certAt (n : Nat) (ms : List (List Elem)) (k : Nat) : Array Nat × Nat :=
  certAfter n (Array.range n, 0) (ms.take k).flatten

theorem certAt_length (n : Nat) (ms : List (List Elem)) :
    certAt n ms ms.length = certAfter n (Array.range n, 0) ms.flatten := by
  rw [certAt, List.take_length]

theorem certAt_macroP (n : Nat) (swaps : List Nat) (k : Nat) :
    certAt n (macroP swaps) k = certAfter n (Array.range n, 0) ((swaps.take k).map Elem.swap) := by
  rw [certAt, ← macroP_flatten, macroP, macroP, List.map_take]

theorem certAfter_append (n : Nat) (st : Array Nat × Nat) (a b : List Elem) :
    certAfter n st (a ++ b) = certAfter n (certAfter n st a) b :=
  List.foldl_append

theorem certAfter_size (n : Nat) (st : Array Nat × Nat) (es : List Elem) : (certAfter n st es).1.size = st.1.size := by
  induction es generalizing st with
  | nil => rfl
  | cons e es ih =>
    refine (ih _).trans ?_
    cases e with
    | swap s => exact Array.size_swapIfInBounds
    | flip f => rfl
    | neg => rfl

/-- the loops of `*_canonization_res`: the certificate after macro-step `bi` -/
def replay (n bi : Nat) : List (List Elem) → Nat → Array Nat × Nat → Option (Array Nat × Nat)
  | [], _, _ => none
  | m :: ms, ind, st =>
    if ind = bi then some (certAfter n st m) else replay n bi ms (ind + 1) (certAfter n st m)

theorem replay_eq (n : Nat) (ms : List (List Elem)) (ind k : Nat) (st : Array Nat × Nat) (hk : k < ms.length) :
    replay n (ind + k) ms ind st = some (certAfter n st (ms.take (k + 1)).flatten) := by
  induction ms generalizing ind k st with
  | nil => cases hk
  | cons m ms ih =>
    cases k with
    | zero => rw [replay, if_pos (Nat.add_zero ind).symm, List.take_succ_cons, List.take_zero, List.flatten_cons,
        List.flatten_nil, List.append_nil]
    | succ k =>
      rw [replay, if_neg (Nat.ne_of_lt (Nat.lt_add_of_pos_right (Nat.succ_pos k))), ← Nat.add_assoc,
        Nat.add_right_comm, ih _ _ _ (Nat.lt_of_succ_lt_succ hk), List.take_succ_cons, List.flatten_cons,
        certAfter_append]

theorem replay_certAt (n bi : Nat) (ms : List (List Elem)) (hbi : bi < ms.length) :
    replay n bi ms 0 (Array.range n, 0) = some (certAt n ms (bi + 1)) := by
  rw [certAt, ← replay_eq n ms 0 bi _ hbi, Nat.zero_add]

theorem pResLoop_eq (n bi : Nat) (swaps : List Nat) (ind : Nat) (perm : Array Nat) (mask : Nat)
    (hsz : perm.size = n) (hv : ∀ s ∈ swaps, s + 1 < n) :
    pResLoop bi swaps ind perm = (replay n bi (macroP swaps) ind (perm, mask)).map (·.1) := by
  induction swaps generalizing ind perm with
  | nil => rfl
  | cons s ss ih =>
    have hs : s + 1 < perm.size := hsz ▸ hv s List.mem_cons_self
    simp only [pResLoop, hs, if_true, macroP, List.map_cons, replay]
    split
    · rfl
    · exact ih _ _ (Array.size_swapIfInBounds.trans hsz) (fun x hx => hv x (List.mem_cons_of_mem _ hx))

theorem pCanonRes_eq (n : Nat) (swaps : List Nat) (hv : ∀ s ∈ swaps, s + 1 < n) (bi : Nat)
    (hbi : bi < (macroP swaps).length) : pCanonRes n swaps bi = some (certAt n (macroP swaps) (bi + 1)).1 := by
  rw [pCanonRes, if_pos (Nat.le_of_lt (macroP_length swaps ▸ hbi)), pResLoop_eq n bi swaps 0 _ 0 Array.size_range hv,
    replay_certAt n bi _ hbi]
  rfl

theorem nResLoop_eq (n bi : Nat) (p : Array Nat) (flips : List Nat) (rest : List (List Elem)) (cur ind : Nat) :
    replay n bi (macroN flips ++ rest) ind (p, cur) =
      match nResLoop n bi flips cur ind with
      | .error r => some (p, r)
      | .ok (c, i) => replay n bi rest i (p, c) := by
  induction flips generalizing cur ind with
  | nil => rfl
  | cons f fs ih =>
    rw [macroN_cons, List.cons_append, List.cons_append, replay, replay, nResLoop, resTwice]
    by_cases h0 : ind = bi
    · rw [if_pos h0, if_pos h0]; rfl
    · rw [if_neg h0, if_neg h0]
      by_cases h1 : ind + 1 = bi
      · rw [if_pos h1, if_pos h1]; rfl
      · rw [if_neg h1, if_neg h1]
        exact ih _ _

theorem nCanonRes_eq (n : Nat) (flips : List Nat) (bi : Nat) (hbi : bi < (macroN flips).length) :
    nCanonRes n flips bi = some (certAt n (macroN flips) (bi + 1)).2 := by
  have h := nResLoop_eq n bi (Array.range n) flips [] 0 0
  rw [List.append_nil, replay_certAt n bi _ hbi] at h
  unfold nCanonRes
  generalize nResLoop n bi flips 0 0 = r at h ⊢
  match r, h with
  | .error r, h => exact congrArg (Option.map (·.2)) h.symm
  | .ok (_, _), h => cases h

theorem npnResLoop_eq (n bi : Nat) (flips : List Nat) (hf : flips ≠ []) (swaps : List Nat) (cur ind : Nat)
    (perm : Array Nat) (hsz : perm.size = n) (hv : ∀ s ∈ swaps, s + 1 < n) :
    npnResLoop n bi flips swaps cur ind perm = replay n bi (macroNPN swaps flips) ind (perm, cur) := by
  induction swaps generalizing cur ind perm with
  | nil => rfl
  | cons s ss ih =>
    have hs : s + 1 < perm.size := hsz ▸ hv s List.mem_cons_self
    -- a block is the N walk with the swap put in front of its first macro-step
    have hb : replay n bi (macroBlock s flips ++ macroNPN ss flips) ind (perm, cur) =
        replay n bi (macroN flips ++ macroNPN ss flips) ind (perm.swapIfInBounds s (s + 1), cur) := by
      cases flips with
      | nil => exact absurd rfl hf
      | cons f fs => rfl
    rw [macroNPN_cons, hb, nResLoop_eq, npnResLoop, if_pos hs]
    generalize nResLoop n bi flips cur ind = r
    match r with
    | .error r => rfl
    | .ok (c, i) =>
      exact ih c i _ (Array.size_swapIfInBounds.trans hsz) (fun x hx => hv x (List.mem_cons_of_mem _ hx))

theorem npnCanonRes_eq (n : Nat) (swaps flips : List Nat) (hf : flips ≠ []) (hv : ∀ s ∈ swaps, s + 1 < n) (bi : Nat)
    (hbi : bi < (macroNPN swaps flips).length) :
    npnCanonRes n swaps flips bi = some (certAt n (macroNPN swaps flips) (bi + 1)) := by
  rw [npnCanonRes, npnResLoop_eq n bi flips hf swaps 0 0 _ Array.size_range hv, replay_certAt n bi _ hbi]

end VoluteModel
