import VoluteModel.Model.Bdd
import VoluteModel.Lemmas.Cmp
import VoluteModel.Lemmas.Robdd

/-!
# Words and lists of words as truth tables written as numbers

The word operations of bdd.rs read on `BitVec.toNat` / `toNatLE`: masking is `%`, shifting is `/`, a
group of words is a block (`Robdd.sub`), the two `retain` filters are one test (`Robdd.keeps`).
-/

namespace VoluteModel
open Robdd

theorem vecLe_eq (a b : List W) : vecLe a b = (compare (a.map BitVec.toNat) (b.map BitVec.toNat)).isLE := by
  rw [vecLe, lexCmp_eq_compare_map]
  cases compare (a.map BitVec.toNat) (b.map BitVec.toNat) <;> rfl

theorem vecLe_trans (a b c : List W) (h1 : vecLe a b = true) (h2 : vecLe b c = true) : vecLe a c = true := by
  rw [vecLe_eq] at *; exact Std.TransCmp.isLE_trans h1 h2

theorem vecLe_total (a b : List W) : (vecLe a b || vecLe b a) = true := by
  rw [vecLe_eq, vecLe_eq, ← Std.OrientedCmp.isGE_eq_isLE (a := a.map BitVec.toNat)]
  cases compare (a.map BitVec.toNat) (b.map BitVec.toNat) <;> rfl

theorem vecLe_antisymm (a b : List W) (h1 : vecLe a b = true) (h2 : vecLe b a = true) : a = b := by
  rw [vecLe_eq] at *
  exact (List.map_inj_right fun _ _ => BitVec.eq_of_toNat_eq).mp
    (Std.LawfulEqCmp.eq_of_compare (Std.OrientedCmp.isLE_antisymm h1 h2))

/-- the number of chunks `level_complexity` takes from a word of 64 bits -/
theorem iters_eq : ∀ v, v ≤ 5 → (64 + 2 ^ (v + 1) - 1) / 2 ^ (v + 1) = 2 ^ (5 - v) := by decide

/-- `lowmask`: `~~~ 0#64 >>> (64 - s)`, the `mask` / `mid_mask` of bdd.rs (`!0u64 >> (64 - shift)`), the low `s` bits -/
theorem lowmask_bit (s : Nat) (hs : s ≤ 64) (b : Nat) :
    (~~~ 0#64 >>> (64 - s)).getLsbD b = decide (b < s) := by
  rw [BitVec.getLsbD_ushiftRight, BitVec.not_zero, BitVec.getLsbD_allOnes]
  exact decide_eq_decide.mpr (by omega)

theorem lowmask_toNat (m : Nat) (hm : m ≤ 64) : (~~~ 0#64 >>> (64 - m)).toNat = 2 ^ m - 1 := by
  apply Nat.eq_of_testBit_eq
  intro i
  rw [BitVec.testBit_toNat, Nat.testBit_two_pow_sub_one, lowmask_bit m hm i]

theorem and_lowmask_toNat (m : Nat) (hm : m ≤ 64) (x : W) :
    (x &&& (~~~ 0#64 >>> (64 - m))).toNat = x.toNat % 2 ^ m := by
  rw [BitVec.toNat_and, lowmask_toNat m hm, Nat.and_two_pow_sub_one_eq_mod]

theorem not_and_lowmask_toNat (m : Nat) (hm : m ≤ 64) (x : W) :
    (~~~ x &&& (~~~ 0#64 >>> (64 - m))).toNat = 2 ^ m - 1 - x.toNat % 2 ^ m := by
  rw [and_lowmask_toNat m hm, BitVec.toNat_not]
  apply Nat.eq_of_testBit_eq
  intro i
  rw [Nat.testBit_mod_two_pow, testBit_two_pow_sub_one_sub x.isLt,
    testBit_two_pow_sub_one_sub (Nat.mod_lt _ (Nat.two_pow_pos m)), Nat.testBit_mod_two_pow]
  by_cases hi : i < m
  · simp [hi, Nat.lt_of_lt_of_le hi hm]
  · simp [hi]

/-- the test `c & 1 != 0` of both normalisations: the value on the all-zero assignment -/
theorem and_one_ne_toNat (x : W) : (x &&& 1#64 != 0#64) = decide (x.toNat % 2 = 1) := by
  rw [and_one_ne_zero, BitVec.getLsbD, Nat.testBit_zero]

/-- the Boolean skeleton of both `retain` closures -/
theorem keep_ite (a b c d : Bool) :
    (if a then false else if b && (c || d) then false else true) = true ↔
      ¬ a = true ∧ ¬ (b = true ∧ (c = true ∨ d = true)) := by
  revert a b c d; decide

theorem levelKeep_toNat (v : Nat) (hv : v ≤ 5) (x : W) (hx : x.toNat < P (v + 1)) :
    levelKeep v x = true ↔ keeps v x.toNat := by
  have h64 : 2 ^ v ≤ 64 := two_pow_le_64 (Nat.le_succ_of_le hv)
  have hhi : x.toNat / P v < P v := div_P_lt hx
  unfold levelKeep keeps dep compl
  simp only [Nat.one_shiftLeft]
  rw [keep_ite]
  simp only [ne_eq, bv_beq_iff, ← BitVec.toNat_inj]
  rw [not_and_lowmask_toNat _ h64, and_lowmask_toNat _ h64, BitVec.toNat_ushiftRight, Nat.shiftRight_eq_div_pow]
  unfold P at hhi ⊢
  rw [Nat.mod_eq_of_lt hhi]
  rfl

/-- `2^j` words hold a table of `j + 6` variables (below, `j` is always the logarithm of a number of
    words, `k` a level minus 6) -/
theorem P_words (j : Nat) : P (j + 6) = 2 ^ (64 * 2 ^ j) := by
  unfold P
  rw [Nat.pow_add, Nat.mul_comm]

theorem zip_all_not (l h : List W) (hlen : l.length = h.length) :
    (List.zip l h).all (fun p => p.1 == ~~~ p.2) = true ↔ l = h.map (~~~ ·) := by
  induction l, h, hlen using length_eq_induction with
  | nil => exact ⟨fun _ => rfl, fun _ => rfl⟩
  | cons a l b h _ ih =>
    simp only [List.zip_cons_cons, List.all_cons, Bool.and_eq_true, bv_beq_iff, List.map_cons, List.cons.injEq]
    rw [ih]

theorem largeKeep_toNat (k : Nat) (x : List W) (hx : x.length = 2 ^ (k + 1)) :
    largeKeep (2 ^ k) x = true ↔ keeps (k + 6) (toNatLE x) := by
  rw [Nat.pow_succ, Nat.mul_two] at hx
  have hlt : (x.take (2 ^ k)).length = 2 ^ k := by
    rw [List.length_take, hx, Nat.min_eq_left (Nat.le_add_right _ _)]
  have hld : (x.drop (2 ^ k)).length = 2 ^ k := by rw [List.length_drop, hx, Nat.add_sub_cancel]
  -- lists of 2^k words are equal when their numbers are
  have inj : ∀ a b : List W, a.length = 2 ^ k → b.length = 2 ^ k → (a = b ↔ toNatLE a = toNatLE b) :=
    fun a b ha hb => ⟨fun h => by rw [h], toNatLE_inj a b (by rw [ha, hb])⟩
  unfold largeKeep keeps dep compl
  simp only []
  rw [keep_ite, beq_iff_eq, zip_all_not _ _ (by rw [hlt, hld]), List.all_eq_true, List.all_eq_true]
  simp only [bv_beq_iff]
  rw [← toNatLE_eq_zero, ← toNatLE_eq_zero, inj _ _ hlt hld, inj _ _ hlt (by rw [List.length_map, hld]),
    toNatLE_map_not, hld, toNatLE_take, toNatLE_drop, ← P_words]

theorem group_toNat (j : Nat) (l : List W) (a : Nat) :
    toNatLE ((l.drop (a * 2 ^ j)).take (2 ^ j)) = sub (j + 5) a (toNatLE l) := by
  rw [toNatLE_take, toNatLE_drop, ← P_words]
  unfold sub
  rw [show 64 * (a * 2 ^ j) = a * 2 ^ (j + 5 + 1) by
    rw [Nat.pow_add 2 j 6, ← Nat.mul_assoc, Nat.mul_comm _ (2 ^ 6), ← Nat.mul_assoc, Nat.mul_comm 64 a]]

theorem word_toNat (t : Array W) (q : Nat) (hq : q < t.size) : (t[q]).toNat = sub 5 q (toNatLE t.toList) := by
  have := group_toNat 0 t.toList q
  rw [Nat.pow_zero, Nat.mul_one, List.drop_eq_getElem_cons (by simpa using hq)] at this
  rw [← this]
  simp [toNatLE]

theorem toNatLE_notInplace (n : Nat) (t : Array W) (hf : WF n t) :
    toNatLE (notInplace n t).toList = compl n (toNatLE t.toList) := by
  rw [eq_iff_testBit_lt (toNatLE_lt_of_WF ((notInplace_spec n t hf.1).1)) (compl_lt n _)]
  intro i hi
  rw [toNatLE_testBit_array, compl_testBit n _ (toNatLE_lt_of_WF hf), toNatLE_testBit_array, (notInplace_spec n t hf.1).2 i hi]
  simp [hi]

end VoluteModel
