import VoluteModel.Lemmas.CanonMain
import VoluteModel.Lemmas.Sjt
import VoluteModel.Lemmas.Gray

/-!
# The swap / flip sequences in use are closed Hamiltonian walks

For n <= 6 the sequences are the tables `SWAPS` / `FLIPS` regenerated from /repo/src (T1), on which the Boolean
checks `swapAllB` / `flipAllB` are evaluated in the kernel.  For n >= 7 they are the model of the run-time
generators (tied to the Rust generators by the `verif_canon_sequences` / `verif_last_sequences` hooks in the
correspondence run), about which `Gray.lean` and `Sjt.lean` prove the same facts for every n.
-/

namespace VoluteModel

/-- what the certificate argument (`macroP_closedWalk`, `macroNPN_closedWalk` below) needs of a swap sequence;
    `closed` is said on the certificate, `swapFacts_of_list` gives it from the list form -/
structure SwapFacts (n : Nat) (swaps : List Nat) : Prop where
  valid : ∀ s ∈ swaps, s + 1 < n
  ne : swaps ≠ []
  closed : (certAfter n (Array.range n, 0) (swaps.map Elem.swap)).1 = Array.range n

theorem swapFacts_of_list (n : Nat) (swaps : List Nat) (hv : ∀ s ∈ swaps, s + 1 < n) (hne : swaps ≠ [])
    (hc : swaps.foldl (fun q s => swapAdjL s q) (List.range n) = List.range n) : SwapFacts n swaps := by
  refine ⟨hv, hne, Array.ext' ?_⟩
  rw [certAfter_swaps, Array.toList_range, hc]

/-- the plain fold, made strict: the kernel evaluates lazily and would carry the accumulator as an unevaluated
    term through all n! steps; the test on `obs`, which only has to touch the components, forces it at each -/
def foldForce {σ α : Type} (f : σ → α → σ) (obs : σ → Bool) : σ → List α → σ
  | s, [] => s
  | s, x :: xs => if obs (f s x) then foldForce f obs (f s x) xs else foldForce f obs (f s x) xs

theorem foldForce_eq {σ α : Type} (f : σ → α → σ) (obs : σ → Bool) (s : σ) (xs : List α) :
    foldForce f obs s xs = xs.foldl f s := by
  induction xs generalizing s with
  | nil => rfl
  | cons x xs ih => rw [foldForce, ite_self, List.foldl_cons, ih]

/-- the step of both distinctness checks: `m` is the bit mask of the codes seen so far, `d` says that they were
    distinct, `k` is the code seen now, `cs` are the codes still to come -/
theorem seen_step {m k : Nat} {d : Bool} {cs : List Nat}
    (h : (d && !m.testBit k) = true ∧ cs.Nodup ∧ ∀ c ∈ cs, (m ||| 2 ^ k).testBit c = false) :
    d = true ∧ (k :: cs).Nodup ∧ ∀ c ∈ k :: cs, m.testBit c = false := by
  obtain ⟨hb, hnd, hall⟩ := h
  rw [Bool.and_eq_true, Bool.not_eq_true'] at hb
  refine ⟨hb.1, List.nodup_cons.mpr ⟨fun hk => ?_, hnd⟩, List.forall_mem_cons.mpr ⟨hb.2, fun c hc => ?_⟩⟩
  · have := hall k hk
    rw [Nat.testBit_or, Nat.testBit_two_pow_self, Bool.or_true] at this
    cases this
  · have := hall c hc
    rw [Nat.testBit_or, Bool.or_eq_false_iff] at this
    exact this.1

def flipFactsB (n : Nat) (flips : List Nat) : Bool :=
  flips.all (fun f => f < n) && (xorFlips flips == 0) && !flips.isEmpty

/-- state: mask, bit mask of the masks seen, all distinct so far -/
def grayStep (st : Nat × Nat × Bool) (f : Nat) : Nat × Nat × Bool :=
  (st.1 ^^^ 2 ^ f, st.2.1 ||| 2 ^ st.1, st.2.2 && !(st.2.1.testBit st.1))

/-- read by nobody: an `obs` for `foldForce` -/
def grayObs (st : Nat × Nat × Bool) : Bool := (st.1 == 0) && st.2.2

def distinctMasksB (flips : List Nat) : Bool :=
  (foldForce grayStep grayObs (0, 0, true) flips).2.2

theorem grayStep_spec (flips : List Nat) (x m : Nat) (b : Bool)
    (h : (flips.foldl grayStep (x, m, b)).2.2 = true) :
    b = true ∧ (prefixXors x flips).Nodup ∧ ∀ c ∈ prefixXors x flips, m.testBit c = false := by
  induction flips generalizing x m b with
  | nil => exact ⟨h, List.nodup_nil, fun _ h => nomatch h⟩
  | cons f fs ih => exact seen_step (ih _ _ _ h)

def flipAllB (n : Nat) (flips : List Nat) : Bool :=
  flipFactsB n flips && distinctMasksB flips && (flips.length == 2 ^ n)

theorem flipAll_of (n : Nat) (flips : List Nat) (h : flipAllB n flips = true) :
    FlipFacts n flips ∧ FlipCover n flips := by
  simp only [flipAllB, flipFactsB, distinctMasksB, foldForce_eq, Bool.and_eq_true, List.all_eq_true,
    decide_eq_true_eq, beq_iff_eq, Bool.not_eq_true', List.isEmpty_eq_false_iff] at h
  obtain ⟨⟨⟨⟨hv, hc⟩, hne⟩, hd⟩, hlen⟩ := h
  exact ⟨⟨hv, hc, hne⟩, (grayStep_spec flips _ _ _ hd).2.1, hlen⟩

/-- with `fusedObs`, the `obs` of the swap check -/
def obsL (p : List Nat) : Bool := p.foldl (· + ·) 0 == 0

/-- Lehmer rank (below n! for a permutation of 0..n-1), used only to detect repetitions - distinct codes imply
    distinct lists whatever the code is; it keeps the bit mask of the codes seen small during kernel evaluation -/
def codeL : List Nat → Nat
  | [] => 0
  | x :: xs => (xs.countP (fun y => decide (y < x))) * factL xs.length + codeL xs

/-- state: permutation, mask of the codes seen, all distinct so far, all positions valid so far,
    number of steps -/
def fusedStep (n : Nat) (st : List Nat × Nat × Bool × Bool × Nat) (s : Nat) : List Nat × Nat × Bool × Bool × Nat :=
  (swapAdjL s st.1, st.2.1 ||| 2 ^ codeL st.1, st.2.2.1 && !(st.2.1.testBit (codeL st.1)),
   st.2.2.2.1 && decide (s + 1 < n), st.2.2.2.2 + 1)

def fusedObs (st : List Nat × Nat × Bool × Bool × Nat) : Bool :=
  obsL st.1 && st.2.2.1 && st.2.2.2.1 && (st.2.2.2.2 == 0)

theorem fused_spec (n : Nat) (swaps : List Nat) (p : List Nat) (m : Nat) (d v : Bool) (c : Nat) :
    ∃ m' d', swaps.foldl (fusedStep n) (p, m, d, v, c) =
        (swaps.foldl (fun q s => swapAdjL s q) p, m', d', v && swaps.all (fun s => decide (s + 1 < n)),
          c + swaps.length) ∧
      (d' = true → d = true ∧ ((prefixPerms p swaps).map codeL).Nodup ∧
        ∀ k ∈ (prefixPerms p swaps).map codeL, m.testBit k = false) := by
  induction swaps generalizing p m d v c with
  | nil => exact ⟨m, d, by rw [List.all_nil, Bool.and_true]; rfl, fun h => ⟨h, List.nodup_nil, fun _ h => nomatch h⟩⟩
  | cons s ss ih =>
    obtain ⟨m', d', he, hd⟩ := ih (swapAdjL s p) (m ||| 2 ^ codeL p) (d && !(m.testBit (codeL p)))
      (v && decide (s + 1 < n)) (c + 1)
    -- one step of the fold (by rfl) is the start of ih; v && (b && r) and c + (1 + len) re-associated
    refine ⟨m', d', he.trans ?_, fun h => seen_step (hd h)⟩
    rw [Bool.and_assoc, Nat.add_assoc, Nat.add_comm 1]
    rfl

/-- `len` is the expected number of steps (`factL n` at both uses: the check does not compute the factorial);
    `len != 0` tests that the sequence is not empty -/
def swapAllB (n len : Nat) (swaps : List Nat) : Bool :=
  let r := foldForce (fusedStep n) fusedObs (List.range n, 0, true, true, 0) swaps
  r.2.2.1 && r.2.2.2.1 && (r.2.2.2.2 == len) && (len != 0) && (r.1 == List.range n)

theorem swapAll_of (n : Nat) (swaps : List Nat) (h : swapAllB n (factL n) swaps = true) :
    SwapFacts n swaps ∧ SwapCover n swaps := by
  obtain ⟨m', d', he, hd⟩ := fused_spec n swaps (List.range n) 0 true true 0
  simp only [swapAllB, foldForce_eq, he, Bool.and_eq_true, Bool.true_and, beq_iff_eq, Nat.zero_add, bne_iff_ne,
    List.all_eq_true, decide_eq_true_eq] at h
  obtain ⟨⟨⟨⟨hd', hv⟩, hlen⟩, hne⟩, hclosed⟩ := h
  have hne' : swaps ≠ [] := fun e => hne (by rw [← hlen, e]; rfl)
  exact ⟨swapFacts_of_list n swaps hv hne' hclosed, nodup_of_nodup_map (hd hd').2.1, hlen⟩

open Gen

/-- T1: the flip tables FLIPS[1..6] of the source -/
theorem flips_table : ∀ n : Fin 7, 1 ≤ n.val → flipAllB n.val ((FLIPS[n.val]?).getD []) = true := by
  decide +kernel

/-- T1: the swap tables SWAPS[2..6] of the source -/
theorem swaps_table : ∀ n : Fin 7, 2 ≤ n.val →
    swapAllB n.val (factL n.val) ((SWAPS[n.val]?).getD []) = true := by
  decide +kernel

theorem flipsFor_facts (n : Nat) (h1 : 1 ≤ n) (h64 : n ≤ 64) :
    ∃ fl, flipsFor n = some fl ∧ FlipFacts n fl ∧ FlipCover n fl := by
  by_cases h6 : n ≤ 6
  · have hlt : n < FLIPS.size := Nat.lt_of_le_of_lt h6 (by decide)
    have := flips_table ⟨n, Nat.lt_succ_of_le h6⟩ h1
    rw [Array.getElem?_eq_getElem hlt] at this
    exact ⟨FLIPS[n], by rw [flipsFor, if_pos h6, Array.getElem?_eq_getElem hlt], flipAll_of n _ this⟩
  · exact ⟨generateGrayFlips n true, by rw [flipsFor, if_neg h6], gray_flips_facts n h1 h64⟩

theorem swapsFor_facts (n : Nat) (h2 : 2 ≤ n) :
    ∃ sw, swapsFor n = some sw ∧ SwapFacts n sw ∧ SwapCover n sw := by
  by_cases h6 : n ≤ 6
  · have hlt : n < SWAPS.size := Nat.lt_of_le_of_lt h6 (by decide)
    have := swaps_table ⟨n, Nat.lt_succ_of_le h6⟩ h2
    rw [Array.getElem?_eq_getElem hlt] at this
    exact ⟨SWAPS[n], by rw [swapsFor, if_pos h6, Array.getElem?_eq_getElem hlt], swapAll_of n _ this⟩
  · obtain ⟨sw, hgen, hv, hne, hc, hnd, hlen⟩ := generateSwaps_facts n h2
    exact ⟨sw, by rw [swapsFor, if_neg h6, hgen], swapFacts_of_list n sw hv hne hc, ⟨hnd, hlen⟩⟩

/-! The three lists over such sequences are closed walks (`ClosedWalk`, CanonMain). -/

theorem macroP_closedWalk (n : Nat) (swaps : List Nat) (hs : SwapFacts n swaps) : ClosedWalk n (macroP swaps) := by
  refine ⟨macroP_length swaps ▸ List.length_pos_iff.mpr hs.ne, ?_, ?_⟩
  · rw [macroP_flatten]
    exact safe_swaps n swaps hs.valid _ 0 (lowZero_zero n)
  · rw [macroP_flatten]
    exact Prod.ext hs.closed (by rw [certAfter_swaps])

theorem macroN_closedWalk (n : Nat) (flips : List Nat) (hfl : FlipFacts n flips) : ClosedWalk n (macroN flips) := by
  refine ⟨macroN_length flips ▸ Nat.mul_pos (by decide) (List.length_pos_iff.mpr hfl.ne),
    safe_macroN n flips hfl.valid _ 0, ?_⟩
  rw [certAfter_macroN, hfl.closed]
  rfl

theorem macroNPN_closedWalk (n : Nat) (swaps flips : List Nat) (hs : SwapFacts n swaps) (hfl : FlipFacts n flips) :
    ClosedWalk n (macroNPN swaps flips) := by
  refine ⟨?_, safe_macroNPN n swaps flips hfl.ne hs.valid hfl.valid hfl.closed _ 0 (lowZero_zero n), ?_⟩
  · rw [macroNPN_length]
    exact Nat.mul_pos (Nat.mul_pos (by decide) (List.length_pos_iff.mpr hs.ne)) (List.length_pos_iff.mpr hfl.ne)
  · rw [certAfter_macroNPN n swaps flips hfl.ne hfl.closed]
    exact Prod.ext hs.closed (by rw [certAfter_swaps])

end VoluteModel
