/-!
# Facts about lists that core Lean lacks

Nothing here mentions the model.
-/

namespace VoluteModel

universe u v w
variable {ι : Type u} {α : Type v} {β : Type w}

theorem length_eq_induction {motive : (as : List α) → (bs : List β) → as.length = bs.length → Prop}
    (nil : motive [] [] rfl)
    (cons : ∀ a as b bs (h : as.length = bs.length), motive as bs h → motive (a :: as) (b :: bs) (congrArg Nat.succ h)) :
    ∀ as bs h, motive as bs h
  | [], [], _ => nil
  | a :: as, b :: bs, h => cons a as b bs (Nat.succ.inj h) (length_eq_induction nil cons as bs (Nat.succ.inj h))

theorem nodup_map_of_injOn {f : α → β} {l : List α} (hl : l.Nodup)
    (hf : ∀ a ∈ l, ∀ b ∈ l, f a = f b → a = b) : (l.map f).Nodup :=
  List.pairwise_map.mpr (hl.imp_of_mem fun ha hb hne e => hne (hf _ ha _ hb e))

theorem nodup_of_nodup_map {f : α → β} {l : List α} (h : (l.map f).Nodup) : l.Nodup :=
  (List.pairwise_map.mp h).imp fun hne e => hne (by rw [e])

theorem nodup_flatMap_map {I : List ι} {J : ι → List α} {g : ι → α → β} (hI : I.Nodup)
    (hJ : ∀ i ∈ I, (J i).Nodup)
    (hg : ∀ i ∈ I, ∀ a ∈ J i, ∀ i' ∈ I, ∀ a' ∈ J i', g i a = g i' a' → i = i' ∧ a = a') :
    (I.flatMap fun i => (J i).map (g i)).Nodup := by
  refine List.pairwise_flatMap.mpr ⟨fun i hi => ?_, hI.imp_of_mem fun {i i'} hi hi' hne x hx y hy e => ?_⟩
  · exact nodup_map_of_injOn (hJ i hi) fun a ha a' ha' e => (hg i hi a ha i hi a' ha' e).2
  · obtain ⟨a, ha, rfl⟩ := List.mem_map.mp hx
    obtain ⟨a', ha', rfl⟩ := List.mem_map.mp hy
    exact hne (hg i hi a ha i' hi' a' ha' e).1

theorem map_range_eq (l : List α) (F : Nat → β) (G : α → β) (h : ∀ i (hi : i < l.length), F i = G l[i]) :
    (List.range l.length).map F = l.map G := by
  apply List.ext_getElem
  · rw [List.length_map, List.length_map, List.length_range]
  · intro i h1 h2
    rw [List.getElem_map, List.getElem_map, List.getElem_range]
    exact h i (List.length_map G ▸ h2)

theorem map_getD_range (p : List Nat) : (List.range p.length).map (fun j => p[j]?.getD 0) = p :=
  (map_range_eq p _ id fun j hj => by rw [List.getElem?_eq_getElem hj]; rfl).trans (List.map_id p)

theorem countP_range_eq (l : List α) (p : Nat → Bool) (q : α → Bool) (h : ∀ i (hi : i < l.length), p i = q l[i]) :
    ((List.range l.length).filter p).length = l.countP q := by
  have := congrArg (List.countP id) (map_range_eq l p q h)
  rwa [List.countP_map, List.countP_map, List.countP_eq_length_filter] at this

theorem any_range_eq (l : List α) (p : Nat → Bool) (q : α → Bool) (h : ∀ i (hi : i < l.length), p i = q l[i]) :
    (List.range l.length).any p = l.any q := by
  have := congrArg (List.any · id) (map_range_eq l p q h)
  rwa [List.any_map, List.any_map] at this

theorem map_idxOf_self (p : List Nat) (hnd : p.Nodup) : p.map (fun v => p.idxOf v) = List.range p.length := by
  apply List.ext_getElem
  · rw [List.length_map, List.length_range]
  · intro j h1 _
    rw [List.getElem_map, List.getElem_range]
    exact hnd.idxOf_getElem j (List.length_map (fun v => p.idxOf v) ▸ h1)

theorem filterMap_eq_map_of {f : α → Option β} {g : α → β} {l : List α}
    (h : ∀ x ∈ l, f x = some (g x)) : l.filterMap f = l.map g := by
  induction l with
  | nil => rfl
  | cons a l ih =>
    rw [List.filterMap_cons, h a List.mem_cons_self, List.map_cons, ih fun x hx => h x (List.mem_cons_of_mem _ hx)]

theorem countP_lt_of {l : List α} {p q : α → Bool} (hpq : ∀ x ∈ l, p x = true → q x = true)
    (hx : ∃ x ∈ l, q x = true ∧ p x = false) : l.countP p < l.countP q := by
  -- the hits of `q` are those of `p` and those of `q` alone, and there is one of the latter
  rw [List.countP_eq_countP_filter_add l q p, List.countP_filter, List.countP_filter,
    List.countP_congr (p := fun a => q a && p a) (q := p) fun x hx => by
      rw [Bool.and_eq_true]; exact ⟨And.right, fun h => ⟨hpq x hx h, h⟩⟩]
  obtain ⟨x, hm, hq, hp⟩ := hx
  exact Nat.lt_add_of_pos_right (List.countP_pos_iff.mpr ⟨x, hm, by simp only [hq, hp]; rfl⟩)

theorem foldl_min_spec (l : List α) (g : α → Nat) (init : Nat) :
    l.foldl (fun b x => min b (g x)) init ≤ init ∧
    (∀ x ∈ l, l.foldl (fun b x => min b (g x)) init ≤ g x) ∧
    (l.foldl (fun b x => min b (g x)) init = init ∨ ∃ x ∈ l, l.foldl (fun b x => min b (g x)) init = g x) := by
  induction l generalizing init with
  | nil => exact ⟨Nat.le_refl _, nofun, Or.inl rfl⟩
  | cons a l ih =>
    obtain ⟨i1, i2, i3⟩ := ih (min init (g a))
    refine ⟨Nat.le_trans i1 (Nat.min_le_left _ _), fun x hx => ?_, ?_⟩
    · rcases List.mem_cons.mp hx with rfl | hx'
      · exact Nat.le_trans i1 (Nat.min_le_right _ _)
      · exact i2 x hx'
    · rcases i3 with h | ⟨x, hx, h⟩
      · rcases Nat.le_total init (g a) with hle | hle
        · exact Or.inl (h.trans (Nat.min_eq_left hle))
        · exact Or.inr ⟨a, List.mem_cons_self, h.trans (Nat.min_eq_right hle)⟩
      · exact Or.inr ⟨x, List.mem_cons_of_mem _ hx, h⟩

/-- also when `n < s`: both sides are empty -/
theorem mem_range'_sub {s n v : Nat} : v ∈ List.range' s (n - s) ↔ s ≤ v ∧ v < n := by
  rw [List.mem_range'_1]; omega

theorem sum_map_mul {α : Type} (L : List α) (F f : α → Nat) (k : Nat) (h : ∀ i ∈ L, F i = k * f i) :
    (L.map F).sum = k * (L.map f).sum := by
  induction L with
  | nil => rfl
  | cons a L ih =>
    rw [List.map_cons, List.map_cons, List.sum_cons, List.sum_cons, h a List.mem_cons_self,
      ih fun i hi => h i (List.mem_cons_of_mem _ hi), Nat.mul_add]

end VoluteModel
