import VoluteModel.Lemmas.Pair
import VoluteModel.Lemmas.InWord

/-!
# The variable transforms on assignments, all storage regimes

Below variable 6 a transform is a word map, from variable 6 on the in-place pair loop over words.
Either way the new table reads the old one through an index map: `condFlip c i` for flip and the
two cofactors, `exch i j` for swap.  The index maps never leave the region from `2^n` on, so the
transforms keep tables well formed (`WF_of_bit_src`).
-/

namespace VoluteModel

/-- the shape of `flip_inplace` and the two cofactors: a word map or a pair loop -/
theorem condFlipKernel_size (c : Prop) [Decidable c] (f : W → W) (P partner g) (t : Array W) :
    (if c then t.map f else pairLoopF P partner g t).size = t.size := by
  split
  · exact Array.size_map
  · exact pairLoopF_size

theorem flipInplace_size (t : Array W) (i : Nat) : (flipInplace t i).size = t.size :=
  condFlipKernel_size ..

theorem cofactor0Inplace_size (t : Array W) (i : Nat) : (cofactor0Inplace t i).size = t.size :=
  condFlipKernel_size ..

theorem cofactor1Inplace_size (t : Array W) (i : Nat) : (cofactor1Inplace t i).size = t.size :=
  condFlipKernel_size ..

theorem swapInplace_size (t : Array W) (i j : Nat) : (swapInplace t i j).size = t.size := by
  simp only [swapInplace, apply_ite Array.size, Array.size_map, pairLoopF_size, ite_self]

theorem fromCofactorsInplace_size (t t0 t1 : Array W) (i : Nat) : (fromCofactorsInplace t t0 t1 i).size = t.size := by
  simp only [fromCofactorsInplace, apply_ite Array.size, Array.size_mapIdx, ite_self]

/-- `c` says for which value of x_i the other half is read, in a word (`hf`) and in a pair of words (`hg`) -/
theorem condFlipKernel_bit (c : Bool → Bool) (f : Nat → W → W) (g : W → W → W × W)
    (hf : ∀ i, i < 6 → ∀ w k, k < 64 → (f i w).getLsbD k = w.getLsbD (condFlip c i k))
    (hg : ∀ a b, g a b = (if c false then b else a, if c true then a else b))
    (n : Nat) (t : Array W) (hs : t.size = tableSize n) (i : Nat) (hi : i < n) (m : Nat) :
    bit (if i ≤ 5 then t.map (f i)
         else pairLoopF (fun k => k &&& (1 <<< (i - 6)) == 0) (fun k => k + (1 <<< (i - 6))) g t) m =
      bit t (condFlip c i m) := by
  split
  · next h5 => exact bit_map_src (hf i (Nat.lt_succ_of_le h5)) t (condFlip_split_lo c (Nat.lt_succ_of_le h5) m)
  · next h5 =>
    obtain ⟨j, rfl⟩ := Nat.exists_eq_add_of_le (Nat.lt_of_not_le h5)
    have hsz := size_eq_two_pow hs
    have hj : j < n - 6 := Nat.lt_sub_iff_add_lt'.mpr hi
    refine bit_gather_src (ψ := fun w _ => condFlip c j w) (κ := fun _ k => k) pairLoopF_size ?_
      (fun w _ hw => hsz ▸ condFlip_ge c hj (hsz ▸ hw)) (condFlip_split_hi c j m)
    intro w k hw _
    rw [Nat.add_sub_cancel_left, pairLoop_stride j g t (n - 6) hsz hj w hw, hg, hg]
    unfold condFlip
    cases w.testBit j
    · cases c false <;> rfl
    · cases c true <;> rfl

section
variable (n : Nat) (t : Array W) (hs : t.size = tableSize n) (i : Nat) (hi : i < n) (m : Nat)
include hs hi

theorem flipInplace_bit : bit (flipInplace t i) m = bit t (m ^^^ 2 ^ i) :=
  condFlipKernel_bit (fun _ => true) flipWord (fun a b => (b, a)) flipWord_bit (fun _ _ => rfl) n t hs i hi m

theorem cofactor0Inplace_bit : bit (cofactor0Inplace t i) m = bit t (condFlip id i m) :=
  condFlipKernel_bit id cof0Word (fun a _ => (a, a)) cof0Word_bit (fun _ _ => rfl) n t hs i hi m

theorem cofactor1Inplace_bit : bit (cofactor1Inplace t i) m = bit t (condFlip not i m) :=
  condFlipKernel_bit not cof1Word (fun _ b => (b, b)) cof1Word_bit (fun _ _ => rfl) n t hs i hi m

end

theorem swapInplace_comm (t : Array W) (i j : Nat) : swapInplace t i j = swapInplace t j i := by
  simp only [swapInplace, eq_comm (a := i), Nat.max_comm i, Nat.min_comm i]

theorem swapInplace_of_gt (t : Array W) {i j : Nat} (hji : j < i) : swapInplace t i j =
    if i ≤ 5 then t.map (swapWord i j)
    else if j ≤ 5 then
      pairLoopF (fun k => k &&& (1 <<< (i - 6)) == 0) (fun k => k + (1 <<< (i - 6))) (swapMixedPair j) t
    else
      pairLoopF (fun k => ((1 <<< (i - 6)) &&& k == 0) && ((1 <<< (j - 6)) &&& k != 0))
        (fun k => k - (1 <<< (j - 6)) + (1 <<< (i - 6))) (fun a b => (b, a)) t := by
  unfold swapInplace
  rw [if_neg (Nat.ne_of_gt hji), Nat.max_eq_left (Nat.le_of_lt hji), Nat.min_eq_right (Nat.le_of_lt hji)]

/-- the loop's pairs are `{k, exch i' j' k}`, led by the member with bit `i'` clear and bit `j'` set -/
theorem swapHi_word (t : Array W) (n' i' j' : Nat) (hji : j' < i') (hsz : t.size = 2 ^ n') (hi : i' < n')
    (w : Nat) (hw : w < t.size) :
    (pairLoopF (fun k => ((1 <<< i') &&& k == 0) && ((1 <<< j') &&& k != 0))
        (fun k => k - (1 <<< j') + (1 <<< i')) (fun a b => (b, a)) t)[w]?.getD 0 = t[exch i' j' w]?.getD 0 := by
  have hne : j' ≠ i' := Nat.ne_of_lt hji
  simp only [Nat.one_shiftLeft, Nat.and_comm (2 ^ i'), Nat.and_comm (2 ^ j'), bne, and_two_pow_eq_zero, Bool.not_not]
  rw [pairLoopF_invol _ _ (exch i' j') _ t (exch_exch i' j')]
  · simp only [exch_testBit, hne]
    cases ha : w.testBit i' <;> cases hb : w.testBit j' <;> simp [exch, ha, hb]
  · intro k
    simp only [exch_testBit, hne]
    cases k.testBit i' <;> simp
  · intro k hk; rw [hsz] at hk ⊢; exact exch_lt hi (Nat.lt_trans hji hi) hk
  · intro k hk
    simp only [Bool.and_eq_true, Bool.not_eq_true'] at hk
    rw [(move_bit k j' i' hk.2 hk.1).1, exch_of_ne (by rw [hk.1, hk.2]; decide), Nat.xor_comm (2 ^ i')]
  · exact hw

/-- the word-level image of `exch_split_mixed` -/
theorem swapMixed_word (t : Array W) (n' i' j : Nat) (hj : j < 6) (hsz : t.size = 2 ^ n') (hi : i' < n')
    (w k : Nat) (hw : w < t.size) (hk : k < 64) :
    ((pairLoopF (fun k => k &&& (1 <<< i') == 0) (fun k => k + (1 <<< i')) (swapMixedPair j) t)[w]?.getD 0).getLsbD k =
      (t[if w.testBit i' = k.testBit j then w else w ^^^ 2 ^ i']?.getD 0).getLsbD
        (if w.testBit i' = k.testBit j then k else k ^^^ 2 ^ j) := by
  rw [pairLoop_stride i' _ t n' hsz hi w hw]
  cases w.testBit i'
  · rw [if_neg Bool.false_ne_true, (swapMixedPair_bit j hj _ _ k hk).1]
    cases k.testBit j <;> rfl
  · rw [if_pos rfl, (swapMixedPair_bit j hj _ _ k hk).2]
    cases k.testBit j <;> rfl

theorem swapInplace_bit_of_gt (n : Nat) (t : Array W) (hs : t.size = tableSize n) (i j : Nat) (hji : j < i)
    (hi : i < n) (m : Nat) : bit (swapInplace t i j) m = bit t (exch i j m) := by
  rw [swapInplace_of_gt t hji]
  split
  · next h5 =>
    have hi6 : i < 6 := Nat.lt_succ_of_le h5
    exact bit_map_src (swapWord_bit i j hi6 hji) t (exch_split_lo hi6 (Nat.lt_trans hji hi6) m)
  · next h5 =>
    obtain ⟨i', rfl⟩ := Nat.exists_eq_add_of_le (Nat.lt_of_not_le h5)
    have hsz := size_eq_two_pow hs
    have hi' : i' < n - 6 := Nat.lt_sub_iff_add_lt'.mpr hi
    rw [Nat.add_sub_cancel_left]
    split
    · next hj5 =>
      have hj6 : j < 6 := Nat.lt_succ_of_le hj5
      refine bit_gather_src pairLoopF_size (swapMixed_word t (n - 6) i' j hj6 hsz hi')
        (fun w k hw => ?_) (exch_split_mixed i' hj6 m)
      split
      · exact hw
      · exact hsz ▸ le_xor_two_pow_of_le hi' (hsz ▸ hw)
    · next hj5 =>
      obtain ⟨j', rfl⟩ := Nat.exists_eq_add_of_le (Nat.lt_of_not_le hj5)
      have hji' : j' < i' := Nat.lt_of_add_lt_add_left hji
      rw [Nat.add_sub_cancel_left]
      exact bit_gather_src (ψ := fun w _ => exch i' j' w) (κ := fun _ k => k) pairLoopF_size
        (fun w _ hw _ => by rw [swapHi_word t (n - 6) i' j' hji' hsz hi' w hw])
        (fun w _ hw => hsz ▸ exch_ge hi' (Nat.lt_trans hji' hi') (hsz ▸ hw)) (exch_split_hi i' j' m)

theorem swapInplace_bit (n : Nat) (t : Array W) (hs : t.size = tableSize n) (i j : Nat) (hi : i < n) (hj : j < n)
    (m : Nat) : bit (swapInplace t i j) m = bit t (exch i j m) := by
  rcases Nat.lt_trichotomy i j with h | h | h
  · rw [swapInplace_comm, exch_comm]
    exact swapInplace_bit_of_gt n t hs j i h hj m
  · subst h
    simp [swapInplace, exch_self]
  · exact swapInplace_bit_of_gt n t hs i j h hi m

theorem fromCofactorsInplace_bit (t t0 t1 : Array W) (hs0 : t0.size = t.size) (hs1 : t1.size = t.size)
    (i m : Nat) : bit (fromCofactorsInplace t t0 t1 i) m = if m.testBit i then bit t1 m else bit t0 m := by
  by_cases hw : m / 64 < t.size
  · unfold fromCofactorsInplace
    split
    · next h5 =>
      have hi6 : i < 6 := Nat.lt_succ_of_le h5
      rw [bit_mapIdx _ hw, fromCofWord_bit i hi6 _ _ _ (mod64_lt m), testBit_mod64 hi6 m]
      rfl
    · next h5 =>
      obtain ⟨j, rfl⟩ := Nat.exists_eq_add_of_le (Nat.lt_of_not_le h5)
      rw [bit_mapIdx _ hw]
      simp only [Nat.add_sub_cancel_left, Nat.one_shiftLeft, and_two_pow_eq_zero, testBit_div64]
      unfold bit
      cases m.testBit (6 + j) <;> rfl
  · have hle := Nat.le_of_not_lt hw
    rw [bit_of_size_le ((fromCofactorsInplace_size t t0 t1 i).symm ▸ hle), bit_of_size_le (hs1.symm ▸ hle),
      bit_of_size_le (hs0.symm ▸ hle), ite_self]

/-- from six variables on any index keeps the table well formed: only the number of words counts -/
theorem flip_WF (n : Nat) (t : Array W) (h : WF n t) (i : Nat) (hi : 6 ≤ n ∨ i < n) : WF n (flipInplace t i) :=
  hi.elim (fun h6 => WF_of_size_ge6 ((flipInplace_size t i).trans h.size) h6) fun hi =>
    WF_of_bit_src h (flipInplace_size t i) (flipInplace_bit n t h.size i hi) (fun _ => le_xor_two_pow_of_le hi)

theorem cof0_WF (n : Nat) (t : Array W) (h : WF n t) (i : Nat) (hi : i < n) : WF n (cofactor0Inplace t i) :=
  WF_of_bit_src h (cofactor0Inplace_size t i) (cofactor0Inplace_bit n t h.size i hi) (fun _ => condFlip_ge id hi)

theorem cof1_WF (n : Nat) (t : Array W) (h : WF n t) (i : Nat) (hi : i < n) : WF n (cofactor1Inplace t i) :=
  WF_of_bit_src h (cofactor1Inplace_size t i) (cofactor1Inplace_bit n t h.size i hi) (fun _ => condFlip_ge not hi)

theorem swap_WF (n : Nat) (t : Array W) (h : WF n t) (i j : Nat) (hij : 6 ≤ n ∨ (i < n ∧ j < n)) :
    WF n (swapInplace t i j) :=
  hij.elim (fun h6 => WF_of_size_ge6 ((swapInplace_size t i j).trans h.size) h6) fun ⟨hi, hj⟩ =>
    WF_of_bit_src h (swapInplace_size t i j) (swapInplace_bit n t h.size i j hi hj) (fun _ => exch_ge hi hj)

theorem fromCof_WF (n : Nat) (t t0 t1 : Array W) (hs : t.size = tableSize n) (h0 : WF n t0) (h1 : WF n t1)
    (i : Nat) : WF n (fromCofactorsInplace t t0 t1 i) :=
  (WF_iff_bit n _).mpr ⟨(fromCofactorsInplace_size t t0 t1 i).trans hs, fun m hm => by
    rw [fromCofactorsInplace_bit t t0 t1 (h0.size.trans hs.symm) (h1.size.trans hs.symm), WF_bit_ge h0 hm, WF_bit_ge h1 hm,
      ite_self]⟩

end VoluteModel
