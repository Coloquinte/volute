import VoluteModel.Model.Bdd

/-!
# `sort(); dedup()` = no duplicates, same members
-/

namespace VoluteModel
variable {α : Type} [DecidableEq α]

theorem mem_dedupAdj (x : α) : ∀ l : List α, x ∈ dedupAdj l ↔ x ∈ l
  | [] => by simp [dedupAdj]
  | [a] => by simp [dedupAdj]
  | a :: b :: l => by
    have ih := mem_dedupAdj x (b :: l)
    unfold dedupAdj
    by_cases h : a = b
    · subst h; simp only [if_true, ih]; simp
    · simp only [h, if_false, List.mem_cons] at ih ⊢
      rw [ih]

theorem nodup_dedupAdj (le : α → α → Bool)
    (hanti : ∀ a b, le a b = true → le b a = true → a = b) :
    ∀ l : List α, l.Pairwise (fun a b => le a b = true) → (dedupAdj l).Nodup
  | [], _ => by simp [dedupAdj]
  | [a], _ => by simp [dedupAdj]
  | a :: b :: l, hs => by
    have hs' : (b :: l).Pairwise (fun a b => le a b = true) := (List.pairwise_cons.mp hs).2
    have ih := nodup_dedupAdj le hanti (b :: l) hs'
    unfold dedupAdj
    by_cases h : a = b
    · simp only [h, if_true]; exact ih
    · simp only [h, if_false]
      rw [List.nodup_cons]
      refine ⟨?_, ih⟩
      intro hmem
      rw [mem_dedupAdj] at hmem
      have hab : le a b = true := (List.pairwise_cons.mp hs).1 b (by simp)
      rcases List.mem_cons.mp hmem with e | hin
      · exact h e
      · have hba : le b a = true := (List.pairwise_cons.mp hs').1 a hin
        exact h (hanti a b hab hba)

theorem sort_dedup_spec (le : α → α → Bool)
    (htrans : ∀ a b c, le a b = true → le b c = true → le a c = true)
    (htotal : ∀ a b, (le a b || le b a) = true)
    (hanti : ∀ a b, le a b = true → le b a = true → a = b) (l : List α) :
    (dedupAdj (l.mergeSort le)).Nodup ∧ ∀ x, x ∈ dedupAdj (l.mergeSort le) ↔ x ∈ l := by
  refine ⟨nodup_dedupAdj le hanti _ (List.pairwise_mergeSort htrans htotal l), ?_⟩
  intro x
  rw [mem_dedupAdj, (List.mergeSort_perm l le).mem_iff]

/-- the case of an order by two numeric keys, the first deciding (`Cube.le`, `ecubeLe`) -/
theorem sort_dedup_lex (le : α → α → Bool) {k1 k2 : α → Nat}
    (hle : ∀ a b, le a b = true ↔ k1 a < k1 b ∨ (k1 a = k1 b ∧ k2 a ≤ k2 b))
    (hinj : ∀ a b, k1 a = k1 b → k2 a = k2 b → a = b) (l : List α) :
    (dedupAdj (l.mergeSort le)).Nodup ∧ ∀ x, x ∈ dedupAdj (l.mergeSort le) ↔ x ∈ l :=
  sort_dedup_spec le (fun a b c h1 h2 => by rw [hle] at *; omega)
    (fun a b => by rw [Bool.or_eq_true, hle, hle]; omega)
    (fun a b h1 h2 => by rw [hle] at h1 h2; exact hinj a b (by omega) (by omega)) l

end VoluteModel
