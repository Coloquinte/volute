import VoluteModel.Lemmas.CanonCert

/-!
# A certificate determines the table

For a permutation every output assignment y has a related x (`cert_total`, built with `bitsToNat`), so
"the image of f under (perm, mask)" is one table (`cert_unique`); an orbit is the set of these images.
-/

namespace VoluteModel

/-- the number whose bit k (k < n) is `g k` -/
def bitsToNat (g : Nat → Bool) : Nat → Nat
  | 0 => 0
  | k + 1 => bitsToNat g k ||| (if g k then 2 ^ k else 0)

theorem bitsToNat_testBit (g : Nat → Bool) (n k : Nat) :
    (bitsToNat g n).testBit k = (decide (k < n) && g k) := by
  induction n with
  | zero => exact Nat.zero_testBit k
  | succ n ih =>
    rw [bitsToNat, Nat.testBit_or, ih]
    by_cases h : k = n
    · subst h
      rw [decide_eq_false (Nat.lt_irrefl k), decide_eq_true (Nat.lt_succ_self k), Bool.false_and, Bool.false_or,
        Bool.true_and]
      cases g k
      · exact Nat.zero_testBit k
      · exact Nat.testBit_two_pow_self
    · have h0 : (if g n then 2 ^ n else 0).testBit k = false := by
        split
        · exact Nat.testBit_two_pow_of_ne (Ne.symm h)
        · exact Nat.zero_testBit k
      rw [h0, Bool.or_false, decide_eq_decide.mpr (Nat.lt_succ_iff_lt_or_eq.trans (or_iff_left h))]

theorem bitsToNat_lt (g : Nat → Bool) (n : Nat) : bitsToNat g n < 2 ^ n := by
  apply Nat.lt_pow_two_of_testBit
  intro i hi
  rw [bitsToNat_testBit, decide_eq_false (Nat.not_lt.mpr hi), Bool.false_and]

theorem bitsToNat_false (g : Nat → Bool) (n : Nat) (h : ∀ k, k < n → g k = false) : bitsToNat g n = 0 := by
  apply Nat.eq_of_testBit_eq
  intro k
  rw [bitsToNat_testBit, Nat.zero_testBit]
  by_cases hk : k < n
  · rw [h k hk, Bool.and_false]
  · rw [decide_eq_false hk, Bool.false_and]

theorem cert_total (n : Nat) (p : Array Nat) (m : Nat) (hp : IsPerm n p) (y : Nat) :
    ∃ x, x < 2 ^ n ∧ ∀ i, i < n → x.testBit (p[i]?.getD 0) = (y.testBit i != m.testBit i) := by
  refine ⟨bitsToNat (fun k => y.testBit (p.toList.idxOf k) != m.testBit (p.toList.idxOf k)) n, bitsToNat_lt _ _,
    fun i hi => ?_⟩
  rw [bitsToNat_testBit, decide_eq_true (isPerm_lt hp i hi), Bool.true_and, idxOf_getD hp i hi]

theorem cert_unique (n : Nat) (f t t' : Array W) (p : Array Nat) (m : Nat) (hp : IsPerm n p)
    (ht : WF n t) (ht' : WF n t') (h : CertRel n f t p m) (h' : CertRel n f t' p m) : t = t' :=
  eq_of_bit ht ht' fun y hy => by
    obtain ⟨x, hx, hrel⟩ := cert_total n p m hp y
    rw [h y x hy hx hrel, h' y x hy hx hrel]

theorem eq_of_cert_id (n : Nat) (f t : Array W) (hf : WF n f) (ht : WF n t)
    (h : CertRel n f t (Array.range n) 0) : t = f :=
  cert_unique n f t f _ 0 (isPerm_range n) ht hf h (cert_init n f)

end VoluteModel
