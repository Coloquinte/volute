import VoluteModel.Lemmas.CanonFlat
import VoluteModel.Lemmas.CrossWord

/-!
# The certificate invariant of the canonization walks

`CertRel n f t perm mask` : the table `t` is the function
`g(y) = f(x) xor mask[n]  where  x[perm[i]] = y[i] xor mask[i]  for all i < n`
(the reading of the certificate in property C05).  Every elementary transform updates table and
certificate in step (`cert_elem`), provided a swap happens only while no input is complemented
(`ElemOK`): the replay swaps `perm` and leaves the mask where it is.  Along such a list (`Safe`) the
certificate stays a group element (`IsPerm`, n+1 mask bits) and the table its image: `Tracks`.
-/

namespace VoluteModel

/-- constrains `t` only at a `y` that has a related `x`: `cert_total`, `cert_unique` (Orbit.lean) -/
def CertRel (n : Nat) (f t : Array W) (perm : Array Nat) (mask : Nat) : Prop :=
  ∀ y x, y < 2 ^ n → x < 2 ^ n →
    (∀ i, i < n → x.testBit (perm[i]?.getD 0) = (y.testBit i != mask.testBit i)) →
    bit t y = (bit f x != mask.testBit n)

theorem cert_init (n : Nat) (f : Array W) : CertRel n f f (Array.range n) 0 := by
  intro y x hy hx h
  obtain rfl : x = y := (eq_iff_testBit_lt hx hy).mpr fun i hi => by
    have := h i hi
    rwa [Array.getElem?_range, if_pos hi, Nat.zero_testBit, Bool.bne_false] at this
  rw [Nat.zero_testBit, Bool.bne_false]

/-- no input is complemented -/
def LowZero (n mask : Nat) : Prop := ∀ i, i < n → mask.testBit i = false

theorem lowZero_zero (n : Nat) : LowZero n 0 := fun i _ => Nat.zero_testBit i

def ElemOK (n : Nat) (st : Array Nat × Nat) : Elem → Prop
  | .swap s => s + 1 < n ∧ LowZero n st.2
  | .flip f => f < n
  | .neg => True

/-- every transform is `ElemOK` in the state it meets -/
def Safe (n : Nat) : Array Nat × Nat → List Elem → Prop
  | _, [] => True
  | st, e :: es => ElemOK n st e ∧ Safe n (rstepE n st e) es

theorem safe_append (n : Nat) (st : Array Nat × Nat) (a b : List Elem) :
    Safe n st (a ++ b) ↔ Safe n st a ∧ Safe n (certAfter n st a) b := by
  induction a generalizing st with
  | nil => exact ⟨fun h => ⟨trivial, h⟩, fun h => h.2⟩
  | cons e a ih => simp only [List.cons_append, Safe, ih, certAfter, List.foldl_cons, and_assoc]

theorem applyElems_size (n : Nat) (t : Array W) (es : List Elem) : (applyElems n t es).size = t.size := by
  induction es generalizing t with
  | nil => rfl
  | cons e es ih =>
    refine (ih _).trans ?_
    cases e with
    | swap s => exact swapInplace_size t s (s + 1)
    | flip f => exact flipInplace_size t f
    | neg => exact Array.size_map

theorem getD_swapAdj (p : Array Nat) (s : Nat) (h : s + 1 < p.size) (i : Nat) :
    (p.swapIfInBounds s (s + 1))[i]?.getD 0 =
      if s + 1 = i then p[s]?.getD 0 else if s = i then p[s + 1]?.getD 0 else p[i]?.getD 0 := by
  have h1 : s < p.size := Nat.lt_of_succ_lt h
  rw [Array.swapIfInBounds_def, dif_pos h1, dif_pos h, Array.getElem?_swap, Array.getElem?_eq_getElem h1,
    Array.getElem?_eq_getElem h, apply_ite (Option.getD · 0), apply_ite (Option.getD · 0)]

theorem cert_elem {n : Nat} {f t : Array W} {p : Array Nat} {m : Nat} {e : Elem}
    (hs : t.size = tableSize n) (hp : p.size = n) (h : CertRel n f t p m) (hok : ElemOK n (p, m) e) :
    CertRel n f (applyElem n t e) (rstepE n (p, m) e).1 (rstepE n (p, m) e).2 := by
  intro y x hy hx hrel
  cases e with
  | neg =>
    simp only [applyElem, rstepE, Nat.one_shiftLeft] at hrel ⊢
    have hx' : ∀ i, i < n → x.testBit (p[i]?.getD 0) = (y.testBit i != m.testBit i) := fun i hi => by
      rw [hrel i hi, testBit_xor_two_pow, decide_eq_false (Nat.ne_of_gt hi), Bool.bne_false]
    rw [(notInplace_spec n t hs).2 y hy, h y x hy hx hx', testBit_xor_two_pow, decide_eq_true rfl]
    cases bit f x <;> cases m.testBit n <;> rfl
  | flip fl =>
    have hfl : fl < n := hok
    simp only [applyElem, rstepE, Nat.one_shiftLeft] at hrel ⊢
    have hx' : ∀ i, i < n → x.testBit (p[i]?.getD 0) = ((y ^^^ 2 ^ fl).testBit i != m.testBit i) := fun i hi => by
      rw [hrel i hi, testBit_xor_two_pow, testBit_xor_two_pow, Bool.bne_assoc, bne_comm (a := m.testBit i)]
    rw [flipInplace_bit n t hs fl hfl y, h _ x (xor_lt_two_pow_of_lt hy hfl) hx hx', testBit_xor_two_pow,
      decide_eq_false (Nat.ne_of_lt hfl), Bool.bne_false]
  | swap s =>
    obtain ⟨hs1, hlow⟩ := hok
    have hs0 : s < n := Nat.lt_of_succ_lt hs1
    simp only [applyElem, rstepE, swapAdjacentInplace] at hrel ⊢
    -- the input mask is zero, so the two exchanged variables only trade places in `perm`
    have hrel' : ∀ i, i < n → x.testBit ((p.swapIfInBounds s (s + 1))[i]?.getD 0) = y.testBit i := fun i hi => by
      rw [hrel i hi, hlow i hi, Bool.bne_false]
    rw [swapInplace_bit n t hs s (s + 1) hs0 hs1 y]
    refine h _ x (exch_lt hs0 hs1 hy) hx fun i hi => ?_
    rw [exch_testBit, hlow i hi, Bool.bne_false]
    by_cases e1 : i = s
    · rw [if_pos e1, ← hrel' (s + 1) hs1, getD_swapAdj p s (hp ▸ hs1), if_pos rfl, e1]
    · by_cases e2 : i = s + 1
      · rw [if_neg e1, if_pos e2, ← hrel' s hs0, getD_swapAdj p s (hp ▸ hs1), if_neg (Nat.succ_ne_self s),
          if_pos rfl, e2]
      · rw [if_neg e1, if_neg e2, ← hrel' i hi, getD_swapAdj p s (hp ▸ hs1), if_neg (Ne.symm e2),
          if_neg (Ne.symm e1)]

def IsPerm (n : Nat) (p : Array Nat) : Prop := p.size = n ∧ p.toList.Perm (List.range n)

theorem isPerm_range (n : Nat) : IsPerm n (Array.range n) :=
  ⟨Array.size_range, Array.toList_range ▸ List.Perm.refl _⟩

theorem isPerm_small (n : Nat) (h : n ≤ 1) (σ : Array Nat) (hσ : IsPerm n σ) : σ = Array.range n := by
  apply Array.ext'
  rw [Array.toList_range]
  match n, h, hσ.2 with
  | 0, _, hp => exact hp.eq_nil
  | 1, _, hp => exact List.perm_singleton.mp hp

theorem isPerm_swap (n : Nat) (p : Array Nat) (h : IsPerm n p) (s : Nat) (hs : s + 1 < n) :
    IsPerm n (p.swapIfInBounds s (s + 1)) := by
  have h2 : s + 1 < p.size := h.1 ▸ hs
  have h1 : s < p.size := Nat.lt_of_succ_lt h2
  refine ⟨Array.size_swapIfInBounds.trans h.1, ?_⟩
  rw [Array.swapIfInBounds_def, dif_pos h1, dif_pos h2]
  exact (Array.perm_iff_toList_perm.mp (Array.swap_perm h1 h2)).trans h.2

theorem isPerm_lt {n : Nat} {p : Array Nat} (h : IsPerm n p) (i : Nat) (hi : i < n) :
    p[i]?.getD 0 < n := by
  have hi' : i < p.size := h.1 ▸ hi
  rw [Array.getElem?_eq_getElem hi', Option.getD_some]
  exact List.mem_range.mp (h.2.mem_iff.mp (Array.getElem_mem_toList hi'))

theorem idxOf_getD {n : Nat} {p : Array Nat} (h : IsPerm n p) (i : Nat) (hi : i < n) :
    p.toList.idxOf (p[i]?.getD 0) = i := by
  have hi' : i < p.size := h.1 ▸ hi
  rw [Array.getElem?_eq_getElem hi', Option.getD_some, ← Array.getElem_toList]
  exact (h.2.nodup_iff.mpr List.nodup_range).idxOf_getElem i _

theorem idxOf_perm {n : Nat} {σ : Array Nat} (h : IsPerm n σ) (k : Nat) (hk : k < n) :
    σ.toList.idxOf k < n ∧ σ[σ.toList.idxOf k]?.getD 0 = k := by
  have hlt : σ.toList.idxOf k < σ.toList.length :=
    List.idxOf_lt_length_of_mem (h.2.mem_iff.mpr (List.mem_range.mpr hk))
  have hlt' : σ.toList.idxOf k < σ.size := Array.length_toList ▸ hlt
  refine ⟨h.1 ▸ hlt', ?_⟩
  rw [Array.getElem?_eq_getElem hlt', Option.getD_some, ← Array.getElem_toList]
  exact List.getElem_idxOf hlt

theorem rstepE_ok {n : Nat} {st : Array Nat × Nat} {e : Elem} (hok : ElemOK n st e)
    (h : IsPerm n st.1 ∧ st.2 < 2 ^ (n + 1)) : IsPerm n (rstepE n st e).1 ∧ (rstepE n st e).2 < 2 ^ (n + 1) := by
  have hx : ∀ k, k ≤ n → st.2 ^^^ 1 <<< k < 2 ^ (n + 1) := fun k hk => by
    rw [Nat.one_shiftLeft]
    exact xor_lt_two_pow_of_lt h.2 (Nat.lt_succ_of_le hk)
  cases e with
  | swap s => exact ⟨isPerm_swap n st.1 h.1 s hok.1, h.2⟩
  | flip fl => exact ⟨h.1, hx fl (Nat.le_of_lt hok)⟩
  | neg => exact ⟨h.1, hx n (Nat.le_refl n)⟩

theorem certAfter_ok {n : Nat} {st : Array Nat × Nat} {es : List Elem} (hs : Safe n st es)
    (h : IsPerm n st.1 ∧ st.2 < 2 ^ (n + 1)) :
    IsPerm n (certAfter n st es).1 ∧ (certAfter n st es).2 < 2 ^ (n + 1) := by
  induction es generalizing st with
  | nil => exact h
  | cons e es ih => exact ih hs.2 (rstepE_ok hs.1 h)

/-- `t` reached from `f`, `st` from the identity, by the same steps -/
structure Tracks (n : Nat) (f t : Array W) (st : Array Nat × Nat) : Prop where
  wf : WF n t
  perm : IsPerm n st.1
  mask : st.2 < 2 ^ (n + 1)
  rel : CertRel n f t st.1 st.2

theorem Tracks.steps {n : Nat} {f t : Array W} {st : Array Nat × Nat} {es : List Elem} (h : Tracks n f t st)
    (hs : Safe n st es) : Tracks n f (applyElems n t es) (certAfter n st es) := by
  induction es generalizing t st with
  | nil => exact h
  | cons e es ih =>
    obtain ⟨hok, hs'⟩ := hs
    obtain ⟨hp, hm⟩ := rstepE_ok hok ⟨h.perm, h.mask⟩
    refine ih ⟨?_, hp, hm, cert_elem h.wf.1 h.perm.1 h.rel hok⟩ hs'
    cases e with
    | swap s => exact swap_WF n t h.wf s (s + 1) (.inr ⟨Nat.lt_of_succ_lt hok.1, hok.1⟩)
    | flip fl => exact flip_WF n t h.wf fl (.inr hok)
    | neg => exact (notInplace_spec n t h.wf.1).1

end VoluteModel
