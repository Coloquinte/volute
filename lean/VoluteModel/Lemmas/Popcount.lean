import VoluteModel.Model.Basic

/-!
# `popc w x`: the ones among the low `w` bits of `x`

The count splits at any position (`popc_add`); that is how `fill_symmetric` gets the count of an
assignment from the counts of its word index and of its position in the word (`popc_of_index`).
-/

namespace VoluteModel

theorem popc_le (w x : Nat) : popc w x ≤ w :=
  Nat.le_trans List.countP_le_length (Nat.le_of_eq List.length_range)

theorem popc_zero (w : Nat) : popc w 0 = 0 := by simp [popc]

theorem popc_add (a b x : Nat) : popc (a + b) x = popc a (x % 2 ^ a) + popc b (x / 2 ^ a) := by
  unfold popc
  rw [List.range_add, List.countP_append, List.countP_map]
  congr 1 <;> refine List.countP_congr fun i hi => ?_
  · simp [Nat.testBit_mod_two_pow, List.mem_range.mp hi]
  · simp [Nat.testBit_div_two_pow, Nat.add_comm]

/-- both sides count the ones among the low 70 = 64 + 6 bits of `m` -/
theorem popc_of_index (n m : Nat) (hn : n ≤ 70) (hm : m < 2 ^ n) :
    popc 64 (m / 64) + popc 6 (m % 64) = popc n m := by
  have h1 := popc_add n (70 - n) m
  have h2 : popc 70 m = popc 6 (m % 64) + popc 64 (m / 64) := popc_add 6 64 m
  rw [Nat.mod_eq_of_lt hm, Nat.div_eq_of_lt hm, popc_zero, Nat.add_sub_cancel' hn] at h1
  omega

end VoluteModel
